import BufrProofs.Codec
/-
  BufrProofs.CodecDynamic — the uncompressed decode loop over *any* template: delayed replication
  (expanded when its factor has been read), new reference values (2 03) and every other operator.

  The control flow of the loop is separated from the bits: `walk` makes the decisions of
  `decodeSubsetLoop` (Table C application, expansion at a factor, the Section 4 size guard, the state
  changes of 2 03) from the *encoder's nodes*, without looking at a single bit.
-/
namespace Bufr
open Bufr

/-- what lets the decoder's node `n1` (tables applied, not skipped) be read from the bits of the
encoder's node `m`: a node that takes a value shares `m`'s encoding, associated field width and a
supported width; a node that takes none (an operator, a replication descriptor — which the encoder's
list may already hold flagged as expanded) faces no bits at all -/
def readOKb (n1 m : Node) : Bool :=
  if (mkvalNode n1).val.isSome then
    decide (n1.enc = m.enc) && decide (n1.flags.skipped = m.flags.skipped) &&
      decide ((mkvalNode n1).afW = m.afW) && widthOKb m
  else decide (nodeBits m = [])

/-- the decisions of `decodeSubsetLoop`, made from the encoder's nodes `ms` instead of the bits:
`some out` = the loop walks to the end and leaves `out`; `none` = some position of the decoder's list
does not pair with the encoder's, an operator error is raised, an expansion is refused, or the list
and the encoder's nodes differ in length. -/
def walk (T : Tables) (edition s4max : Nat) (s4len : Int) :
    Nat → DDO → List Node → List Node → List Node → Option (List Node)
  | 0, _, _, _, _ => none
  | _+1, _, done, [], ms => if ms.isEmpty then some done.reverse else none
  | _+1, _, _, _ :: _, [] => none
  | f+1, ddo, done, n :: rest, m :: ms =>
    let a := applyTables2node T edition ddo n
    if a.2.2 then none
    else if n.flags.skipped != a.2.1.flags.skipped then none
    else if n.flags.skipped then
      if nodeBits m = [] then walk T edition s4max s4len f a.1 (a.2.1 :: done) rest ms else none
    else if !readOKb a.2.1 m then none
    else
      let n2 := readBack' a.2.1 m
      let ddo2 := applyOpCrefval T a.1 n2
      if Desc.f n2.desc = 1 ∧ Desc.y n2.desc = 0 then
        match rest, ms with
        | c31 :: rest', mc :: ms' =>
          if Desc.f c31.desc = 0 ∧ Desc.x c31.desc = 31 then
            if !(readOKb c31 mc && !c31.flags.skipped && (mkvalNode c31).val.isSome) then none
            else
              match expandNodeDecode T f (some s4max) n2 (readBack c31 mc) rest' with
              | .ok (x :: y :: more, false) =>
                if (s4len + minSeqLength (done.reverse ++ x :: y :: more)) / 8 > (s4max : Int) * 3 then none
                else walk T edition s4max s4len f ddo2 (y :: x :: done) more ms'
              | _ => none
          else walk T edition s4max s4len f ddo2 (n2 :: done) rest ms
        | _, _ => none
      else walk T edition s4max s4len f ddo2 (n2 :: done) rest ms

theorem getDescValue_read (r : R) (hI : RInv r) (n1 m : Node) (rest : List Bool)
    (hp : readOKb n1 m = true) (hsk : n1.flags.skipped = false) (hb : r.bits = nodeBits m ++ rest) :
    ∃ r', getDescValue r n1 = some (r', readBack' n1 m) ∧ r'.bits = rest ∧ RInv r' := by
  unfold readOKb at hp
  by_cases hv : (mkvalNode n1).val.isSome = true
  · rw [if_pos hv] at hp
    simp only [Bool.and_eq_true, decide_eq_true_eq] at hp
    obtain ⟨⟨⟨henc, hs⟩, hafw⟩, hw⟩ := hp
    have hl : SameLayout n1 m := ⟨henc, hs, hafw, hv⟩
    have hms : m.flags.skipped = false := by rw [← hs]; exact hsk
    obtain ⟨r2, e2, hb2, hI2⟩ := getDescValue_view r hI n1 m _ hl hms (widthOK_of_b m hw) hb
    exact ⟨r2, by rw [e2]; simp [readBack', hsk, hv], hb2, hI2⟩
  · rw [if_neg hv] at hp
    have hnb : nodeBits m = [] := by simpa using hp
    have hv' : (mkvalNode n1).val.isSome = false := by simpa using hv
    rw [hnb, List.nil_append] at hb
    refine ⟨r, ?_, hb, hI⟩
    unfold getDescValue
    simp [hsk, hv', readBack']

/-- **the decode loop follows the bit-free walk**, for any template -/
theorem decodeSubsetLoop_walk (T : Tables) (edition s4max : Nat) :
    ∀ (fuel : Nat) (ddo : DDO) (st : DecSt) (done todo ms out : List Node) (rest : List Bool),
    walk T edition s4max st.s4len fuel ddo done todo ms = some out →
    RInv st.r → st.r.bits = ms.flatMap nodeBits ++ rest →
    ∃ r', decodeSubsetLoop T edition s4max fuel ddo st done todo = .ok ({ st with r := r' }, out, .complete) ∧
      r'.bits = rest ∧ RInv r' := by
  intro fuel ddo st done todo ms out rest h hI hb
  -- the reader inside `st` moves along the loop, `st.s4len` does not: induction along `walk` for a fixed length
  obtain ⟨s4len, hs⟩ : ∃ s, s = st.s4len := ⟨_, rfl⟩
  rw [← hs] at h
  fun_induction walk T edition s4max s4len fuel ddo done todo ms generalizing st
  case case2 _ _ done ms hms =>
    -- both lists at their end
    obtain rfl := List.isEmpty_iff.mp hms
    cases h
    exact ⟨st.r, by simp [decodeSubsetLoop], by simpa using hb, hI⟩
  case case7 f ddo done n todo m ms a herr hskeq hsk hm ih =>
    -- a position without data: nothing on the wire
    rw [List.flatMap_cons, hm, List.nil_append] at hb
    obtain ⟨r', e, hr⟩ := ih st hI hb h hs
    refine ⟨r', ?_, hr⟩
    unfold decodeSubsetLoop
    rw [show applyTables2node T edition ddo n = (a.1, a.2.1, a.2.2) from rfl]
    simp only [eq_false_of_ne_true herr, Bool.or_false, hsk, if_true]
    exact e
  case case12 f ddo done n m a herr hskeq hsk hp n2 ddo2 hd c31 todo mc ms h31 hc x y more hx hg ih =>
    -- delayed replication: the factor is read, the list expanded, the size guard passed
    subst hs
    have hsk1 : a.2.1.flags.skipped = false := by simpa [hsk] using hskeq
    simp only [Bool.not_eq_true', Bool.not_eq_false, Bool.and_eq_true] at hc
    obtain ⟨⟨hcp, hcs⟩, hcv⟩ := hc
    rw [List.flatMap_cons, List.append_assoc] at hb
    obtain ⟨r2, e2, hb2, hI2⟩ := getDescValue_read st.r hI a.2.1 m _ (by simpa using hp) hsk1 hb
    rw [List.flatMap_cons, List.append_assoc] at hb2
    obtain ⟨r3, e3, hb3, hI3⟩ := getDescValue_read r2 hI2 c31 mc _ hcp hcs hb2
    rw [show readBack' c31 mc = readBack c31 mc by simp [readBack', hcs, hcv]] at e3
    obtain ⟨r', e, hr⟩ := ih { st with r := r3 } hI3 hb3 h rfl
    refine ⟨r', ?_, hr⟩
    unfold decodeSubsetLoop
    rw [show applyTables2node T edition ddo n = (a.1, a.2.1, a.2.2) from rfl]
    simp only [eq_false_of_ne_true herr, Bool.or_false, hsk, e2]
    rw [if_pos hd, if_pos h31]
    simp only [e3]
    rw [hx]
    simp only [Bool.or_false]
    rw [if_neg hg]
    exact e
  case case14 f ddo done n m a herr hskeq hsk hp n2 ddo2 hd c31 todo mc ms h31 ih =>
    -- a replication descriptor not followed by a class 31 factor
    have hsk1 : a.2.1.flags.skipped = false := by simpa [hsk] using hskeq
    rw [List.flatMap_cons, List.append_assoc] at hb
    obtain ⟨r2, e2, hb2, hI2⟩ := getDescValue_read st.r hI a.2.1 m _ (by simpa using hp) hsk1 hb
    obtain ⟨r', e, hr⟩ := ih { st with r := r2 } hI2 hb2 h hs
    refine ⟨r', ?_, hr⟩
    unfold decodeSubsetLoop
    rw [show applyTables2node T edition ddo n = (a.1, a.2.1, a.2.2) from rfl]
    simp only [eq_false_of_ne_true herr, Bool.or_false, hsk, e2]
    rw [if_pos hd, if_neg h31]
    exact e
  case case16 f ddo done n todo m ms a herr hskeq hsk hp n2 ddo2 hd ih =>
    -- an element or operator
    have hsk1 : a.2.1.flags.skipped = false := by simpa [hsk] using hskeq
    rw [List.flatMap_cons, List.append_assoc] at hb
    obtain ⟨r2, e2, hb2, hI2⟩ := getDescValue_read st.r hI a.2.1 m _ (by simpa using hp) hsk1 hb
    obtain ⟨r', e, hr⟩ := ih { st with r := r2 } hI2 hb2 h hs
    refine ⟨r', ?_, hr⟩
    unfold decodeSubsetLoop
    rw [show applyTables2node T edition ddo n = (a.1, a.2.1, a.2.2) from rfl]
    simp only [eq_false_of_ne_true herr, Bool.or_false, hsk, e2]
    rw [if_neg hd]
    exact e
  -- everywhere else the walk gives up
  all_goals cases h

/-- the walk of every subset in turn; the bits accounted for so far (`s4.len`, which the size guard of
a later expansion looks at) are carried from one subset to the next as the decoder carries them -/
def walkAll (T : Tables) (edition : Nat) (enforce : Enforce) (s4max fuel : Nat) (bsq : List Node)
    (lenConst : Bool) (nbitsSeq : Int) : Int → List (List Node) → Option (List (List Node))
  | _, [] => some []
  | s4len, ms :: mss =>
    match walk T edition s4max s4len fuel { enforce := enforce } [] bsq ms with
    | none => none
    | some out =>
      match walkAll T edition enforce s4max fuel bsq lenConst nbitsSeq
              (s4len + (if lenConst then nbitsSeq else estimateSeqLength T fuel out)) mss with
      | none => none
      | some outs => some (mkvalAll out :: outs)

/-- the `for` loop over the subsets follows `walkAll`.  `hkeep` makes the loop keep every subset it walks: with
subsets of constant length the caller has positioned the reader at the first requested subset, and a request
`from ≤ 0` asks for all of them -/
theorem decodeUncompressed_walk (T : Tables) (edition : Nat) (enforce : Enforce) (fuel s4max : Nat)
    (bsq : List Node) (nbitsSeq : Int) (lenConst : Bool) (from_ to_ : Int)
    (hkeep : lenConst = true ∨ from_ ≤ 0) :
    ∀ (mss : List (List Node)) (j : Nat) (st : DecSt) (acc outs : List (List Node)) (rest : List Bool),
    walkAll T edition enforce s4max fuel bsq lenConst nbitsSeq st.s4len mss = some outs →
    RInv st.r → st.r.bits = mss.flatMap (fun ms => ms.flatMap nodeBits) ++ rest →
    ∃ st', decodeUncompressed T edition enforce fuel s4max bsq nbitsSeq lenConst from_ to_ mss.length j st acc =
        .ok (st', acc.reverse ++ outs) ∧
      st'.invalid = st.invalid ∧ st'.r.bits = rest ∧ RInv st'.r := by
  intro mss j st acc outs rest h hI hb
  obtain ⟨s4len, hs⟩ : ∃ s, s = st.s4len := ⟨_, rfl⟩
  rw [← hs] at h
  fun_induction walkAll T edition enforce s4max fuel bsq lenConst nbitsSeq s4len mss generalizing j st acc outs
  case case1 =>
    cases h
    exact ⟨st, by simp [decodeUncompressed], rfl, by simpa using hb, hI⟩
  case case4 s4len ms mss out hw outs' hw2 ih =>
    cases h
    subst hs
    rw [List.flatMap_cons, List.append_assoc] at hb
    obtain ⟨r', e, hb', hI'⟩ := decodeSubsetLoop_walk T edition s4max fuel { enforce := enforce } st [] bsq ms out _
      hw hI hb
    obtain ⟨st', e2, hinv, hb2, hI2⟩ := ih (j + 1)
      { st with r := r', s4len := st.s4len + (if lenConst then nbitsSeq else estimateSeqLength T fuel out) }
      (mkvalAll out :: acc) outs' hI' hb' hw2 rfl
    refine ⟨st', ?_, hinv, hb2, hI2⟩
    have hk : lenConst = true ∨ from_ ≤ 0 ∨ (from_ ≤ (j : Int) + 1 ∧ (j : Int) + 1 ≤ to_) := hkeep.imp_right Or.inl
    simp only [List.length_cons, decodeUncompressed, e, hk, if_true, e2, List.reverse_cons, List.append_assoc,
      List.singleton_append]
  all_goals cases h

/-- **encode, then decode, any template**: if the bit-free walk of the subsets `ss` over the decoder's
template copy `bsq` goes through, decoding the uncompressed encoding of `ss` returns exactly the
subsets the walk computed, and the dataset is not flagged invalid -/
theorem encode_decode_walk (T : Tables) (edition : Nat) (enforce : Enforce) (fuel s4max : Nat)
    (bsq : List Node) (nbitsSeq : Int) (lenConst : Bool) (ss outs : List (List Node)) (dataFlag : Nat)
    (h : walkAll T edition enforce s4max fuel bsq lenConst nbitsSeq 0 ss = some outs) :
    ∃ st', decodeUncompressed T edition enforce fuel s4max bsq nbitsSeq lenConst 0 0 ss.length 0
        { r := R.ofBytes (padSection4 edition (encodeData ss dataFlag 0).2).bytes, invalid := false } [] =
        .ok (st', outs) ∧ st'.invalid = false := by
  obtain ⟨pad, hb, hI⟩ := encodeData_reader ss dataFlag edition
  obtain ⟨st', e, hinv, _, _⟩ := decodeUncompressed_walk T edition enforce fuel s4max bsq nbitsSeq lenConst 0 0
    (Or.inr (le_refl 0)) ss 0
    { r := R.ofBytes (padSection4 edition (encodeData ss dataFlag 0).2).bytes, invalid := false } [] outs pad h hI hb
  exact ⟨st', by simpa using e, hinv⟩

theorem readBack'_enc (n m : Node) : (readBack' n m).enc = n.enc ∧ (readBack' n m).desc = n.desc := by
  unfold readBack'
  split
  · exact ⟨rfl, rfl⟩
  · split
    · exact ⟨(readBack_enc n m).1.trans (mkvalNode_enc n).1, (readBack_enc n m).2.trans (mkvalNode_enc n).2⟩
    · exact mkvalNode_enc n

theorem readOKb_of_pair {n m : Node} (hp : Pair n m) (hsk : n.flags.skipped = false) : readOKb n m = true := by
  unfold readOKb
  rcases hp.data hsk with ⟨hv, hafw, hw⟩ | ⟨hv, hnb⟩
  · simp [hv, hp.enc, hp.skipped, hafw, (widthOKb_iff m).mpr hw]
  · simp [hv, hnb]

/-- **a static layout is walked position by position**: over a list that is a fixed point of Table C
application and holds no 2 03 and no delayed replication, the walk re-derives the same encodings, pairs every
position with the encoder's node and reaches the end -/
theorem walk_static (T : Tables) (edition s4max : Nat) (s4len : Int) :
    ∀ (nodes ms : List Node) (fuel : Nat) (ddo : DDO) (done : List Node),
    nodes.length < fuel → staticOK T edition ddo nodes = true → List.Forall₂ Pair nodes ms →
    walk T edition s4max s4len fuel ddo done nodes ms = some (done.reverse ++ List.zipWith readBack' nodes ms) := by
  intro nodes
  induction nodes with
  | nil =>
    intro ms fuel ddo done hf _ hp
    cases hp
    obtain ⟨f, rfl⟩ : ∃ f, fuel = f + 1 := ⟨fuel - 1, by simp at hf; omega⟩
    simp [walk]
  | cons n ns ih =>
    intro ms fuel ddo done hf hok hp
    obtain ⟨f, rfl⟩ : ∃ f, fuel = f + 1 := ⟨fuel - 1, by omega⟩
    cases hp with
    | cons hpair hps =>
    rename_i m ms'
    simp only [staticOK, Bool.and_eq_true, decide_eq_true_eq, Bool.not_eq_eq_eq_not, Bool.not_true] at hok
    obtain ⟨⟨⟨⟨hfix, herr⟩, hnc⟩, hnd⟩, hrest⟩ := hok
    have hih := fun done' => ih ms' f (applyTables2node T edition ddo n).1 done' (by simp at hf; omega) hrest hps
    unfold walk
    simp only [hfix, herr, Bool.false_eq_true, if_false, bne_self_eq_false]
    by_cases hsk : n.flags.skipped = true
    · -- nothing on the wire
      have hm : nodeBits m = [] := by unfold nodeBits; rw [← hpair.skipped, hsk]; simp
      simp [hsk, hm, hih, readBack']
    · have hsk' : n.flags.skipped = false := by simpa using hsk
      have hrok := readOKb_of_pair hpair hsk'
      have hrb := readBack'_enc n m
      have hcr : applyOpCrefval T (applyTables2node T edition ddo n).1 (readBack' n m) =
          (applyTables2node T edition ddo n).1 := by
        unfold applyOpCrefval; rw [hrb.1]; simp [hnc]
      have hnd' : ¬ (Desc.f (readBack' n m).desc = 1 ∧ Desc.y (readBack' n m).desc = 0) := by
        rw [hrb.2]; intro ⟨h1, h2⟩; simp [h1, h2, hsk'] at hnd
      simp [hsk', hrok, hcr, hnd', hih]

theorem walkAll_static (T : Tables) (edition : Nat) (enforce : Enforce) (s4max fuel : Nat) (bsq : List Node)
    (lenConst : Bool) (nbitsSeq : Int) (hfuel : bsq.length < fuel)
    (hok : staticOK T edition { enforce := enforce } bsq = true) :
    ∀ (mss : List (List Node)) (s4len : Int), (∀ ms ∈ mss, List.Forall₂ Pair bsq ms) →
    walkAll T edition enforce s4max fuel bsq lenConst nbitsSeq s4len mss =
      some (mss.map fun ms => mkvalAll (List.zipWith readBack' bsq ms)) := by
  intro mss
  induction mss with
  | nil => intro _ _; rfl
  | cons ms mss ih =>
    intro s4len hp
    simp only [walkAll, walk_static T edition s4max s4len bsq ms fuel _ [] hfuel hok (hp ms (by simp)),
      ih _ (fun m hm => hp m (by simp [hm])), List.reverse_nil, List.nil_append, List.map_cons]

/-- **all subsets of a static layout**: the `for` loop of `bufr_decode_message_subsets` returns one
decoded subset per encoded subset, in order, each read position by position, and never raises the
invalid flag -/
theorem decodeUncompressed_static (T : Tables) (edition : Nat) (enforce : Enforce) (fuel s4max : Nat)
    (bsq : List Node) (nbitsSeq : Int) (lenConst : Bool) (from_ to_ : Int)
    (hkeep : lenConst = true ∨ from_ ≤ 0)
    (hfuel : bsq.length < fuel) (hok : staticOK T edition { enforce := enforce } bsq = true) :
    ∀ (mss : List (List Node)) (j : Nat) (st : DecSt) (acc : List (List Node)) (rest : List Bool),
    (∀ ms ∈ mss, List.Forall₂ Pair bsq ms) → RInv st.r →
    st.r.bits = mss.flatMap (fun ms => ms.flatMap nodeBits) ++ rest →
    ∃ st', decodeUncompressed T edition enforce fuel s4max bsq nbitsSeq lenConst from_ to_ mss.length j st acc =
        .ok (st', acc.reverse ++ mss.map (fun ms => mkvalAll (List.zipWith readBack' bsq ms))) ∧
      st'.invalid = st.invalid ∧ st'.r.bits = rest ∧ RInv st'.r :=
  fun mss j st acc rest hp hI hb =>
    decodeUncompressed_walk T edition enforce fuel s4max bsq nbitsSeq lenConst from_ to_ hkeep mss j st acc _ rest
      (walkAll_static T edition enforce s4max fuel bsq lenConst nbitsSeq hfuel hok mss st.s4len hp) hI hb

/-- **C01, static templates.** For every list `bsq` the decoder derives for a template without
delayed replication and without 2 03 (any Table B/D content, any operators 2 01/2 02/2 04–2 09, any
fixed replication), every number of subsets and every assignment of values whose nodes `ss` share that
layout: decoding the uncompressed encoding returns the same number of subsets, each with the same
descriptor positions, every data-bearing position read from exactly the bits its own value was written
to (`readBack'`), and the dataset is not flagged invalid. -/
theorem encode_decode_static (T : Tables) (edition : Nat) (enforce : Enforce) (fuel s4max : Nat)
    (bsq : List Node) (nbitsSeq : Int) (ss : List (List Node)) (dataFlag : Nat)
    (hfuel : bsq.length < fuel) (hok : staticOK T edition { enforce := enforce } bsq = true)
    (hp : ∀ ms ∈ ss, List.Forall₂ Pair bsq ms) :
    ∃ st', decodeUncompressed T edition enforce fuel s4max bsq nbitsSeq true 0 0 ss.length 0
        { r := R.ofBytes (padSection4 edition (encodeData ss dataFlag 0).2).bytes, invalid := false } [] =
        .ok (st', ss.map (fun ms => mkvalAll (List.zipWith readBack' bsq ms))) ∧ st'.invalid = false :=
  encode_decode_walk T edition enforce fuel s4max bsq nbitsSeq true ss _ dataFlag
    (walkAll_static T edition enforce s4max fuel bsq true nbitsSeq hfuel hok ss 0 hp)

/-- the two nodes an expansion puts in place of the replication descriptor and its factor keep their
descriptors, encodings and values — except that a factor without a usable value (missing, or none at
all) is given the value 0, as `bufr_expand_node_descriptor` does -/
theorem expandNodeDecode_heads (T : Tables) (f : Nat) (s4 : Option Nat) (n c31 : Node) (rest : List Node)
    (x y : Node) (more : List Node) (e : Bool)
    (h : expandNodeDecode T f s4 n c31 rest = .ok (x :: y :: more, e)) :
    x.desc = n.desc ∧ x.enc = n.enc ∧ x.val = n.val ∧ y.desc = c31.desc ∧ y.enc = c31.enc ∧
      (y.val = c31.val ∨ (if c31.hasVal then c31.ival else -1) < 0) := by
  have hval : ∀ v : Val, (if (if c31.hasVal then c31.ival else -1) < 0 then v else c31.val) = c31.val ∨
      (if c31.hasVal then c31.ival else -1) < 0 := by
    intro v
    by_cases hc : (if c31.hasVal then c31.ival else -1) < 0
    · exact Or.inr hc
    · exact Or.inl (if_neg hc)
  unfold expandNodeDecode at h
  simp only at h
  by_cases hs : n.skipped ∨ n.expanded
  · rw [if_pos hs] at h; cases h; exact ⟨rfl, rfl, rfl, rfl, rfl, Or.inl rfl⟩
  rw [if_neg hs] at h
  generalize (if solveReplication _ _ < 0 then (0 : Int) else _) = rep at h
  by_cases hr : rep > 0
  · rw [if_pos hr] at h
    by_cases hl : rest.length < Desc.x n.desc
    · rw [if_pos hl] at h; cases h
    · rw [if_neg hl] at h
      generalize replDescriptors _ _ _ _ _ _ = q at h
      match q, h with
      | .ok (sub, e1), h =>
        simp only [Except.ok.injEq, Prod.mk.injEq] at h
        obtain ⟨⟨rfl, rfl, _⟩, _⟩ := h
        exact ⟨rfl, rfl, rfl, rfl, rfl, hval _⟩
  · rw [if_neg hr] at h
    simp only [Except.ok.injEq, Prod.mk.injEq] at h
    obtain ⟨⟨rfl, rfl, _⟩, _⟩ := h
    exact ⟨rfl, rfl, rfl, rfl, rfl, hval _⟩

/-- position `o` of the decoded subset faces position `m` of the encoder's: it is the decoder's node
`n1` (descriptor and encoding as Table C application derived them) holding the value `readBack'`
reads from the bits of `m` -/
def Reads (o m : Node) : Prop :=
  ∃ n1 : Node, o.desc = n1.desc ∧ o.enc = n1.enc ∧
    ((n1.flags.skipped = true ∧ nodeBits m = [] ∧ o.val = n1.val) ∨
     (n1.flags.skipped = false ∧ readOKb n1 m = true ∧
        (o.val = (readBack' n1 m).val ∨
         (Desc.x o.desc = 31 ∧ (if (readBack' n1 m).hasVal then (readBack' n1 m).ival else -1) < 0))))

theorem reads_self (n1 m : Node) (hsk : n1.flags.skipped = false) (hp : readOKb n1 m = true) :
    Reads (readBack' n1 m) m :=
  ⟨n1, (readBack'_enc n1 m).2, (readBack'_enc n1 m).1, Or.inr ⟨hsk, hp, Or.inl rfl⟩⟩

theorem walk_reads (T : Tables) (edition s4max : Nat) (s4len : Int) :
    ∀ (fuel : Nat) (ddo : DDO) (done todo ms out : List Node),
    walk T edition s4max s4len fuel ddo done todo ms = some out →
    ∃ tail, out = done.reverse ++ tail ∧ List.Forall₂ Reads tail ms := by
  intro fuel ddo done todo ms out h
  fun_induction walk T edition s4max s4len fuel ddo done todo ms
  case case2 _ _ done ms hms =>
    -- both lists at their end
    obtain rfl := List.isEmpty_iff.mp hms
    cases h
    exact ⟨[], by simp, .nil⟩
  case case7 f ddo done n todo m ms a herr hskeq hsk hm ih =>
    -- a position without data: nothing on the wire
    obtain ⟨tail, e, hf⟩ := ih h
    have hsk1 : a.2.1.flags.skipped = true := by simpa [hsk] using hskeq
    exact ⟨a.2.1 :: tail, by simp [e], .cons ⟨a.2.1, rfl, rfl, Or.inl ⟨hsk1, hm, rfl⟩⟩ hf⟩
  case case12 f ddo done n m a herr hskeq hsk hp n2 ddo2 hd c31 todo mc ms h31 hc x y more hx hg ih =>
    -- delayed replication: the factor is read, the list expanded, the size guard passed
    obtain ⟨tail, e, hf⟩ := ih h
    have hsk1 : a.2.1.flags.skipped = false := by simpa [hsk] using hskeq
    simp only [Bool.not_eq_true', Bool.not_eq_false, Bool.and_eq_true, Bool.not_eq_true'] at hc
    obtain ⟨⟨hcp, hcs⟩, hcv⟩ := hc
    have hrbc : readBack' c31 mc = readBack c31 mc := by simp [readBack', hcs, hcv]
    obtain ⟨hx1, hx2, hx3, hy1, hy2, hy3⟩ := expandNodeDecode_heads T f (some s4max) _ _ _ x y more false hx
    have hrb := readBack'_enc a.2.1 m
    have hrc := readBack'_enc c31 mc
    rw [← hrbc] at hy1 hy2 hy3
    refine ⟨x :: y :: tail, by simp [e], .cons ?_ (.cons ?_ hf)⟩
    · exact ⟨a.2.1, hx1.trans hrb.2, hx2.trans hrb.1, Or.inr ⟨hsk1, by simpa using hp, Or.inl hx3⟩⟩
    · exact ⟨c31, hy1.trans hrc.2, hy2.trans hrc.1, Or.inr ⟨hcs, hcp,
        hy3.imp id fun h2 => ⟨by rw [hy1, hrc.2]; exact h31.2, h2⟩⟩⟩
  case case14 f ddo done n m a herr hskeq hsk hp n2 ddo2 hd c31 todo mc ms h31 ih =>
    -- a replication descriptor not followed by a class 31 factor
    obtain ⟨tail, e, hf⟩ := ih h
    have hsk1 : a.2.1.flags.skipped = false := by simpa [hsk] using hskeq
    exact ⟨n2 :: tail, by simp [e], .cons (reads_self _ m hsk1 (by simpa using hp)) hf⟩
  case case16 f ddo done n todo m ms a herr hskeq hsk hp n2 ddo2 hd ih =>
    -- an element or operator
    obtain ⟨tail, e, hf⟩ := ih h
    have hsk1 : a.2.1.flags.skipped = false := by simpa [hsk] using hskeq
    exact ⟨n2 :: tail, by simp [e], .cons (reads_self _ m hsk1 (by simpa using hp)) hf⟩
  -- everywhere else the walk gives up
  all_goals cases h

end Bufr
