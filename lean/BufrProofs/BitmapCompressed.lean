import BufrProofs.Bitmap
/-
  BufrProofs.BitmapCompressed — the compressed lock-step loop with the bit-map head
  (`decodeCompressedLoopB`) is the plain loop while nothing of the bit-map machinery is met.
-/
namespace Bufr

/-- `b` has the descriptors and flags of `a`, position by position -/
def SameDF : List Node → List Node → Prop
  | [], [] => True
  | a :: as, b :: bs => b.desc = a.desc ∧ b.flags = a.flags ∧ SameDF as bs
  | _, _ => False

theorem SameDF.refl : ∀ l, SameDF l l
  | [] => trivial
  | _ :: as => ⟨rfl, rfl, SameDF.refl as⟩

theorem SameDF.length : ∀ {a b : List Node}, SameDF a b → b.length = a.length
  | [], [], _ => rfl
  | _ :: as, _ :: bs, h => by simp [SameDF.length h.2.2]
  | [], _ :: _, h => h.elim
  | _ :: _, [], h => h.elim

theorem SameDF.quiet : ∀ {a b : List Node}, SameDF a b → QuietList a → QuietList b
  | [], [], _, h => h
  | _ :: _, _ :: _, h, hq => .cons (quietNode_of hq.uncons.1 h.1 (by rw [h.2.1])) (SameDF.quiet h.2.2 hq.uncons.2)
  | [], _ :: _, h, _ => h.elim
  | _ :: _, [], h, _ => h.elim

theorem SameDF.map (f : Node → Node) (hf : ∀ n, (f n).desc = n.desc ∧ (f n).flags = n.flags) :
    ∀ l, SameDF l (l.map f)
  | [] => trivial
  | a :: as => ⟨(hf a).1, (hf a).2, SameDF.map f hf as⟩

theorem SameDF.zipWithNodes (f : Node → Nat → Node) (hf : ∀ n v, (f n v).desc = n.desc ∧ (f n v).flags = n.flags) :
    ∀ (l : List Node) (vs : List Nat), SameDF l (zipWithNodes f l vs)
  | [], _ => by simp [Bufr.zipWithNodes, SameDF]
  | a :: as, [] => by unfold Bufr.zipWithNodes; exact SameDF.refl _
  | a :: as, v :: vs => by
    unfold Bufr.zipWithNodes
    exact ⟨(hf a v).1, (hf a v).2, SameDF.zipWithNodes f hf as vs⟩

theorem SameDF.zipWithStrs (f : Node → List Nat → Node) (hf : ∀ n v, (f n v).desc = n.desc ∧ (f n v).flags = n.flags) :
    ∀ (l : List Node) (vs : List (List Nat)), SameDF l (zipWithStrs f l vs)
  | [], _ => by simp [Bufr.zipWithStrs, SameDF]
  | a :: as, [] => by unfold Bufr.zipWithStrs; exact SameDF.refl _
  | a :: as, v :: vs => by
    unfold Bufr.zipWithStrs
    exact ⟨(hf a v).1, (hf a v).2, SameDF.zipWithStrs f hf as vs⟩

theorem setBitsValue_df (n : Node) (v : Nat) : (setBitsValue n v).desc = n.desc ∧ (setBitsValue n v).flags = n.flags := by
  obtain ⟨v', w, b, h⟩ := setBitsValue_frame n v
  rw [h]; exact ⟨rfl, rfl⟩

/-! Every column reader hands back the column it was given, or that column with a value set in each node
(`List.map`, `zipWithNodes`, `zipWithStrs`): descriptors and flags stay. -/

theorem getNumericCompressed_df (r r' : R) (col col' : List Node) (g : Range)
    (h : getNumericCompressed r col g = some (r', col')) : SameDF col col' := by
  unfold getNumericCompressed at h
  cases col with
  | nil => cases h; trivial
  | cons cb tl =>
    dsimp only at h
    replace h := (ite_eq_neg h nofun).2
    replace h := (ite_eq_neg h nofun).2
    replace h := (ite_eq_neg h nofun).2
    rcases ite_eq_cases h with ⟨_, h⟩ | ⟨_, h⟩
    · cases h; exact SameDF.map _ (fun n => setBitsValue_df n _) _
    split at h
    · cases h
    · cases h; exact SameDF.zipWithNodes _ (fun n _ => setBitsValue_df n _) _ _

theorem numericPartial_df (r : R) (col : List Node) (g : Range) : SameDF col (numericPartial r col g) := by
  unfold numericPartial
  cases col with
  | nil => trivial
  | cons cb tl =>
    refine prop_ite (fun _ => .refl _) fun _ => prop_ite (fun _ => .refl _) fun _ => ?_
    refine prop_ite (fun _ => .refl _) fun _ => prop_ite (fun _ => .refl _) fun _ => ?_
    exact .zipWithNodes _ (fun n _ => setBitsValue_df n _) _ _

theorem getAfCompressed_df (r r' : R) (col col' : List Node) (g : Range)
    (h : getAfCompressed r col g = some (r', col')) : SameDF col col' := by
  unfold getAfCompressed at h
  cases col with
  | nil => cases h; trivial
  | cons cb tl =>
    dsimp only at h
    rcases ite_eq_cases h with ⟨_, h⟩ | ⟨_, h⟩
    · cases h; exact SameDF.refl _
    replace h := (ite_eq_neg h nofun).2
    replace h := (ite_eq_neg h nofun).2
    rcases ite_eq_cases h with ⟨_, h⟩ | ⟨_, h⟩
    · cases h; refine SameDF.map _ (fun n => ?_) _; exact mkvalNode_df n
    split at h
    · cases h
    · cases h; refine SameDF.zipWithNodes _ (fun n _ => ?_) _ _; exact mkvalNode_df n

theorem getCcittCompressed_df (r r' : R) (col col' : List Node) (g : Range)
    (h : getCcittCompressed r col g = some (r', col')) : SameDF col col' := by
  unfold getCcittCompressed at h
  cases col with
  | nil => cases h; trivial
  | cons cb tl =>
    dsimp only at h
    replace h := (ite_eq_neg h nofun).2
    replace h := (ite_eq_neg h nofun).2
    rcases ite_eq_cases h with ⟨_, h⟩ | ⟨_, h⟩
    · cases h; refine SameDF.map _ (fun n => ?_) _; exact mkvalNode_df n
    split at h
    · cases h
    · cases h; refine SameDF.zipWithStrs _ (fun n _ => ?_) _ _; exact mkvalNode_df n

theorem getIeeeCompressed_df (r r' : R) (col col' : List Node) (g : Range)
    (h : getIeeeCompressed r col g = some (r', col')) : SameDF col col' := by
  have hs : ∀ (c : Prop) [Decidable c] (n : Node) (x y : Val),
      (if c then { mkvalNode n with val := x } else { mkvalNode n with val := y }).desc = n.desc ∧
      (if c then { mkvalNode n with val := x } else { mkvalNode n with val := y }).flags = n.flags := by
    intro c _ n x y
    split <;> exact mkvalNode_df n
  unfold getIeeeCompressed at h
  cases col with
  | nil => cases h; trivial
  | cons cb tl =>
    dsimp only at h
    replace h := (ite_eq_neg h nofun).2
    replace h := (ite_eq_neg h nofun).2
    rcases ite_eq_cases h with ⟨_, h⟩ | ⟨_, h⟩
    · cases h; exact SameDF.map _ (fun n => hs _ n _ _) _
    split at h
    · cases h
    · cases h; exact SameDF.zipWithNodes _ (fun n _ => hs _ n _ _) _ _

def QuietLists (l : List (List Node)) : Prop := ∀ t ∈ l, QuietList t

theorem stepFB_quiet (T : Tables) (edition : Nat) :
    ∀ (todos dones : List (List Node)) (ddos : List DDO) (bms : List BM),
    bms.length = ddos.length → dones.length = todos.length → ddos.length = todos.length →
    (∀ b ∈ bms, b = ({} : BM)) → (∀ d ∈ ddos, quietDDO d) →
    QuietLists todos → (∀ t ∈ todos, t ≠ []) →
    List.zipWith (stepFB T edition) (List.zip ddos bms) (List.zip dones todos) =
      (List.zipWith (fun ddo n => applyTables2node T edition ddo n) ddos (todos.filterMap (·.head?))).map
        (fun a => (a.1, ({} : BM), a.2.1, a.2.2)) := by
  intro todos
  induction todos with
  | nil =>
    intro dones ddos bms _ h2 _ _ _ _ _
    have : dones = [] := List.eq_nil_of_length_eq_zero (by simpa using h2)
    subst this
    simp
  | cons t ts ih =>
    intro dones ddos bms h1 h2 h3 hb hd hq hne
    match dones, ddos, bms, h1, h2, h3 with
    | dn :: dns, d :: ds, b :: bs, h1, h2, h3 =>
      have hbe : b = {} := hb b (by simp)
      subst hbe
      have hdq : quietDDO d := hd d (by simp)
      match t, hne t (by simp), hq t (by simp) with
      | n :: tl, _, hqt =>
        have hn : quietNode n = true := hqt n (by simp)
        simp only [List.zip_cons_cons, List.zipWith_cons_cons, List.filterMap_cons, List.head?_cons, List.map_cons]
        have e1 : stepFB T edition (d, {}) (dn, n :: tl) =
            ((applyTables2node T edition d n).1, ({} : BM), (applyTables2node T edition d n).2.1,
             (applyTables2node T edition d n).2.2) := by
          unfold stepFB
          simp only []
          exact applyTables2nodeB_quiet T edition _ d n hdq hn
        rw [e1]
        congr 1
        exact ih dns ds bs (by simpa using h1) (by simpa using h2) (by simpa using h3)
          (fun b hb' => hb b (by simp [hb'])) (fun d' hd' => hd d' (by simp [hd']))
          (fun t' ht' => hq t' (by simp [ht'])) (fun t' ht' => hne t' (by simp [ht']))

/-- what the lock-step loop keeps true while no bit-map operator is met -/
structure CInv (st : CompStB) : Prop where
  bms : ∀ b ∈ st.bms, b = ({} : BM)
  ddos : ∀ d ∈ st.ddos, quietDDO d
  todos : ∀ t ∈ st.todos, ∀ x ∈ t, quietNode x = true
  dones : ∀ t ∈ st.dones, ∀ x ∈ t, quietNode x = true
  l1 : st.bms.length = st.ddos.length
  l2 : st.dones.length = st.todos.length
  l3 : st.ddos.length = st.todos.length

/-- a result of the lock-step loop with the bit-map head, its bit-map states forgotten -/
def liftC (x : Except XErr CompStB) : Except XErr CompSt :=
  match x with
  | .ok s => .ok s.plain
  | .error e => .error e

theorem heads_quiet : ∀ (todos : List (List Node)), (∀ t ∈ todos, t ≠ []) → QuietLists todos →
    (todos.filterMap (·.head?)).length = todos.length ∧ QuietList (todos.filterMap (·.head?))
  | [], _, _ => ⟨rfl, by intro x hx; simp at hx⟩
  | t :: ts, hne, hq => by
    match t, hne t (by simp), hq t (by simp) with
    | n :: tl, _, hqt =>
      obtain ⟨a, b⟩ := heads_quiet ts (fun t' h => hne t' (by simp [h])) (fun t' h => hq t' (by simp [h]))
      simp only [List.filterMap_cons, List.head?_cons, List.length_cons]
      refine ⟨by rw [a], ?_⟩
      intro x hx
      simp only [List.mem_cons] at hx
      rcases hx with hx | hx
      · rw [hx]; exact hqt n (by simp)
      · exact b x hx

theorem mem_zipWith {α β γ : Type} {f : α → β → γ} : ∀ {l₁ : List α} {l₂ : List β} {c : γ},
    c ∈ List.zipWith f l₁ l₂ → ∃ a ∈ l₁, ∃ b ∈ l₂, c = f a b
  | a :: l₁, b :: l₂, c, h => by
    rcases List.mem_cons.1 h with rfl | h
    · exact ⟨a, .head _, b, .head _, rfl⟩
    · obtain ⟨a', ha, b', hb, e⟩ := mem_zipWith h
      exact ⟨a', .tail _ ha, b', .tail _ hb, e⟩
  | [], _, _, h => nomatch h
  | _ :: _, [], _, h => nomatch h

theorem applyTables2node_column_quiet (T : Tables) (edition : Nat) (ddos : List DDO) (heads : List Node)
    (hl : ddos.length = heads.length) (hd : ∀ d ∈ ddos, quietDDO d) (hq : QuietList heads) :
    ((List.zipWith (fun ddo n => applyTables2node T edition ddo n) ddos heads).map (·.1)).length = heads.length ∧
    (∀ d ∈ (List.zipWith (fun ddo n => applyTables2node T edition ddo n) ddos heads).map (·.1), quietDDO d) ∧
    ((List.zipWith (fun ddo n => applyTables2node T edition ddo n) ddos heads).map (·.2.1)).length = heads.length ∧
    QuietList ((List.zipWith (fun ddo n => applyTables2node T edition ddo n) ddos heads).map (·.2.1)) := by
  refine ⟨by simp [hl], ?_, by simp [hl], ?_⟩
  · intro d hd'
    obtain ⟨a, ha, rfl⟩ := List.mem_map.1 hd'
    obtain ⟨ddo, h1, n, h2, rfl⟩ := mem_zipWith ha
    exact applyTables2node_quietDDO T edition ddo n (hd _ h1) (hq _ h2)
  · intro x hx
    obtain ⟨a, ha, rfl⟩ := List.mem_map.1 hx
    obtain ⟨ddo, _, n, h2, rfl⟩ := mem_zipWith ha
    rw [applyTables2node_quietNode]
    exact hq _ h2

theorem zipCons_quiet (col : List Node) (dones : List (List Node)) (hl : col.length = dones.length) (hq : QuietList col)
    (hd : QuietLists dones) :
    (List.zipWith (fun n d => n :: d) col dones).length = dones.length ∧
    QuietLists (List.zipWith (fun n d => n :: d) col dones) := by
  refine ⟨by simp [hl], ?_⟩
  intro t ht
  obtain ⟨n, hn, d, hd', rfl⟩ := mem_zipWith ht
  exact List.forall_mem_cons.2 ⟨hq n hn, hd d hd'⟩

theorem tails_quiet (todos : List (List Node)) (hq : QuietLists todos) :
    (todos.map (·.drop 1)).length = todos.length ∧ QuietLists (todos.map (·.drop 1)) := by
  refine ⟨by simp, ?_⟩
  intro t ht
  simp only [List.mem_map] at ht
  obtain ⟨t0, h0, rfl⟩ := ht
  intro x hx
  exact hq t0 h0 x (List.mem_of_mem_drop hx)

theorem applyOpCrefval_column_quiet (T : Tables) (ddos : List DDO) (col : List Node) (hl : ddos.length = col.length)
    (hd : ∀ d ∈ ddos, quietDDO d) :
    (List.zipWith (fun ddo n => applyOpCrefval T ddo n) ddos col).length = col.length ∧
    ∀ d ∈ List.zipWith (fun ddo n => applyOpCrefval T ddo n) ddos col, quietDDO d := by
  refine ⟨by simp [hl], ?_⟩
  intro d hd'
  obtain ⟨ddo, h1, n, _, rfl⟩ := mem_zipWith hd'
  exact applyOpCrefval_quiet T ddo n (hd _ h1)

theorem readBody_df (ty : DType) (r1 r2 : R) (col2 col3 : List Node) (g : Range)
    (h : readBody ty r1 col2 g = some (r2, col3)) : SameDF col2 col3 := by
  unfold readBody at h
  split at h
  · exact getCcittCompressed_df _ _ _ _ _ h
  · exact getIeeeCompressed_df _ _ _ _ _ h
  · exact getNumericCompressed_df _ _ _ _ _ h
  · exact getNumericCompressed_df _ _ _ _ _ h
  · exact getNumericCompressed_df _ _ _ _ _ h
  · exact getNumericCompressed_df _ _ _ _ _ h
  · simp only [Option.some.injEq, Prod.mk.injEq] at h
    obtain ⟨_, rfl⟩ := h
    exact SameDF.refl _

theorem foldl_expStep_error (T : Tables) (f s4max : Nat) (e : XErr) :
    ∀ ps, List.foldl (expStep T f s4max) (.error e) ps = .error e
  | [] => rfl
  | p :: ps => by simp only [List.foldl_cons, expStep]; exact foldl_expStep_error T f s4max e ps

theorem foldl_expStep (T : Tables) (hT : QClosed T) (f s4max : Nat) :
    ∀ (ps : List (List Node × Node × List Node)) (ds ts : List (List Node)) (inv : Bool)
      (ds' ts' : List (List Node)) (inv' : Bool),
    (∀ p ∈ ps, QuietList p.1 ∧ quietNode p.2.1 = true ∧ QuietList p.2.2) →
    QuietLists ds → QuietLists ts → ds.length = ts.length →
    List.foldl (expStep T f s4max) (.ok (ds, ts, inv)) ps = .ok (ds', ts', inv') →
    QuietLists ds' ∧ QuietLists ts' ∧ ds'.length = ts'.length ∧ ts'.length = ts.length + ps.length := by
  intro ps
  induction ps with
  | nil =>
    intro ds ts inv ds' ts' inv' _ hd ht hl h
    simp only [List.foldl_nil, Except.ok.injEq, Prod.mk.injEq] at h
    obtain ⟨rfl, rfl, _⟩ := h
    exact ⟨hd, ht, hl, by simp⟩
  | cons p ps ih =>
    intro ds ts inv ds' ts' inv' hp hd ht hl h
    obtain ⟨⟨hp1, hp2, hp3⟩, hps⟩ := List.forall_mem_cons.1 hp
    rw [List.foldl_cons] at h
    cases hs : expStep T f s4max (.ok (ds, ts, inv)) p with
    | error e => rw [hs, foldl_expStep_error] at h; cases h
    | ok q =>
      rw [hs] at h
      unfold expStep at hs
      dsimp only at hs
      split at hs
      · rename_i rnode dprev hp1e
        rw [hp1e] at hp1
        obtain ⟨hrn, hdprev⟩ := List.forall_mem_cons.1 hp1
        split at hs
        · cases hs
        · rename_i lst eflag hx
          have hl' := hT f (some s4max) rnode p.2.1 p.2.2 lst eflag
            (List.forall_mem_cons.2 ⟨hrn, List.forall_mem_cons.2 ⟨hp2, hp3⟩⟩) hx
          split at hs
          · cases hs
            obtain ⟨ha, hl'⟩ := List.forall_mem_cons.1 hl'
            obtain ⟨hb, hmore⟩ := List.forall_mem_cons.1 hl'
            obtain ⟨r1, r2, r3, r4⟩ := ih _ _ _ ds' ts' inv' hps
              (List.forall_mem_cons.2 ⟨List.forall_mem_cons.2 ⟨hb, List.forall_mem_cons.2 ⟨ha, hdprev⟩⟩, hd⟩)
              (List.forall_mem_cons.2 ⟨hmore, ht⟩) (by simp [hl]) h
            exact ⟨r1, r2, r3, by rw [r4]; simp; omega⟩
          · cases hs
      · cases hs

theorem decodeCompressedLoopB_quiet (T : Tables) (edition s4max : Nat) (g : Range) (hT : QClosed T) :
    ∀ (fuel : Nat) (st : CompStB), CInv st →
    liftC (decodeCompressedLoopB T edition s4max g fuel st) = decodeCompressedLoop T edition s4max g fuel st.plain := by
  intro fuel
  induction fuel with
  | zero => intro st _; simp [decodeCompressedLoopB, decodeCompressedLoop, liftC]
  | succ f ih =>
    intro st hI
    obtain ⟨r, invalid, ddos, bms, dones, todos, pend, early⟩ := st
    obtain ⟨hIb, hId, hIt, hIdn, hl1, hl2, hl3⟩ := hI
    simp only [] at hIb hId hIt hIdn hl1 hl2 hl3
    unfold decodeCompressedLoopB decodeCompressedLoop
    simp only [CompStB.plain]
    cases todos with
    | nil => simp [liftC, CompStB.plain]
    | cons todo0 trest =>
      simp only []
      cases todo0 with
      | nil => simp [liftC, CompStB.plain]
      | cons cb tl0 =>
        simp only []
        by_cases hemp : (List.any ((cb :: tl0) :: trest) (·.isEmpty)) = true
        · simp [hemp, liftC]
        · simp only [hemp, Bool.false_eq_true, if_false]
          have hne : ∀ t ∈ (cb :: tl0) :: trest, t ≠ [] := by
            intro t ht hte
            apply hemp
            rw [List.any_eq_true]
            exact ⟨t, ht, by rw [hte]; rfl⟩
          have hap := stepFB_quiet T edition ((cb :: tl0) :: trest) dones ddos bms hl1 hl2 hl3 hIb hId hIt hne
          obtain ⟨hh1, hh2⟩ := heads_quiet ((cb :: tl0) :: trest) hne hIt
          obtain ⟨fa1, fa2, fa3, fa4⟩ := applyTables2node_column_quiet T edition ddos _ (by rw [hh1]; exact hl3) hId hh2
          rw [hh1] at fa1 fa3
          obtain ⟨ft1, ft2⟩ := tails_quiet ((cb :: tl0) :: trest) hIt
          rw [hap]
          simp only [List.map_map, Function.comp_def, List.any_map]
          -- both loops now go on from states built of the same pieces: name the pieces, keeping only what `CInv`
          -- asks of them, so that `ih` applies to the state whichever branch is taken
          generalize hA : List.zipWith (fun ddo n => applyTables2node T edition ddo n) ddos
              (List.filterMap (fun x => x.head?) ((cb :: tl0) :: trest)) = A at fa1 fa2 fa3 fa4 ⊢
          have hbl : (List.map (fun (_ : DDO × Node × Bool) => ({} : BM)) A).length =
              (List.map (fun x => x.1) A).length := by simp
          have hbq : ∀ b ∈ List.map (fun (_ : DDO × Node × Bool) => ({} : BM)) A, b = ({} : BM) := by
            intro b hb
            obtain ⟨_, _, rfl⟩ := List.mem_map.1 hb
            rfl
          generalize List.map (fun (_ : DDO × Node × Bool) => ({} : BM)) A = bms1 at hbl hbq ⊢
          generalize hd1 : List.map (fun x => x.1) A = ddos1 at fa1 fa2 hbl ⊢
          generalize hc1 : List.map (fun x => x.2.1) A = col1 at fa3 fa4 ⊢
          generalize (A.any fun x => x.2.2) = e1
          generalize htl : List.map (fun x => List.drop 1 x) ((cb :: tl0) :: trest) = tails at ft1 ft2 ⊢
          generalize hn : ((cb :: tl0) :: trest).length = n at hl2 hl3 fa1 fa3 ft1
          clear hap hA hh1 hh2 hd1 hc1 htl hn hne hemp
          have hdq : QuietLists dones := hIdn
          by_cases hsk : cb.flags.skipped = true
          · simp only [hsk, if_true]
            obtain ⟨z1, z2⟩ := zipCons_quiet col1 dones (by omega) fa4 hdq
            have hS : CInv (CompStB.mk r (invalid || e1) ddos1 bms1
                (List.zipWith (fun x1 x2 => x1 :: x2) col1 dones) tails pend early) :=
              ⟨hbq, fa2, ft2, z2, hbl, by show (List.zipWith _ col1 dones).length = tails.length; omega,
               by show ddos1.length = tails.length; omega⟩
            rw [ih _ hS]
            rfl
          · simp only [hsk, Bool.false_eq_true, if_false]
            cases haf : getAfCompressed r col1 g with
            | none => simp [liftC, CompStB.plain]
            | some p =>
              obtain ⟨r1, col2⟩ := p
              have d12 := getAfCompressed_df _ _ _ _ _ haf
              have q2 : QuietList col2 := SameDF.quiet d12 fa4
              have l2 : col2.length = n := by rw [SameDF.length d12]; exact fa3
              simp only []
              cases hbd : readBody (col1.headD cb).enc.type r1 col2 g with
              | none =>
                simp only []
                by_cases hc : pend = true ∧ (Desc.f cb.desc = 0 ∧ Desc.x cb.desc = 31) ∧
                    (col1.headD cb).enc.type = DType.numeric
                · simp only [hc, and_self, if_true]
                  generalize List.foldl (expStep T f s4max) (Except.ok ([], [], false))
                    (dones.zip ((numericPartial r1 col2 g).zip tails)) = fr
                  cases fr with
                  | error e => cases e <;> simp [liftC, CompStB.plain]
                  | ok q =>
                    obtain ⟨ds, ts, iv⟩ := q
                    simp only []
                    split <;> simp [liftC, CompStB.plain]
                · simp only [hc, if_false]
                  simp [liftC, CompStB.plain]
              | some p2 =>
                obtain ⟨r2, col3⟩ := p2
                have d23 := readBody_df _ _ _ _ _ _ hbd
                have q3 : QuietList col3 := SameDF.quiet d23 q2
                have l3 : col3.length = n := by rw [SameDF.length d23]; exact l2
                simp only []
                obtain ⟨c1, c2⟩ := applyOpCrefval_column_quiet T ddos1 col3 (by omega) fa2
                by_cases hc : pend = true ∧ Desc.f cb.desc = 0 ∧ Desc.x cb.desc = 31
                · simp only [hc, and_self, if_true]
                  cases hfr : List.foldl (expStep T f s4max) (Except.ok ([], [], false))
                      (dones.zip (col3.zip tails)) with
                  | error e => cases e <;> simp [liftC, CompStB.plain]
                  | ok q =>
                    obtain ⟨ds, ts, iv⟩ := q
                    simp only []
                    split
                    · simp [liftC, CompStB.plain]
                    · have hps : ∀ p ∈ dones.zip (col3.zip tails),
                          QuietList p.1 ∧ quietNode p.2.1 = true ∧ QuietList p.2.2 := by
                        intro p hp
                        obtain ⟨m1, m2⟩ := List.of_mem_zip hp
                        obtain ⟨m3, m4⟩ := List.of_mem_zip m2
                        exact ⟨hdq _ m1, q3 _ m3, ft2 _ m4⟩
                      obtain ⟨g1, g2, g3, g4⟩ := foldl_expStep T hT f s4max _ [] [] false ds ts iv hps
                        (by intro t ht; simp at ht) (by intro t ht; simp at ht) rfl hfr
                      have g5 : ts.length = n := by
                        rw [g4]; simp only [List.length_nil, List.length_zip, Nat.zero_add]; omega
                      have hS : CInv (CompStB.mk r2 ((invalid || e1) || iv)
                          (List.zipWith (fun ddo n => applyOpCrefval T ddo n) ddos1 col3) bms1
                          ds.reverse ts.reverse false false) := by
                        refine ⟨hbq, c2, fun t ht => g2 t (List.mem_reverse.mp ht),
                          fun t ht => g1 t (List.mem_reverse.mp ht), ?_, ?_, ?_⟩
                        · show bms1.length = (List.zipWith _ ddos1 col3).length
                          omega
                        · show ds.reverse.length = ts.reverse.length
                          simp [g3]
                        · show (List.zipWith _ ddos1 col3).length = ts.reverse.length
                          rw [List.length_reverse]
                          omega
                      rw [ih _ hS]
                      rfl
                · simp only [hc, if_false]
                  obtain ⟨z1, z2⟩ := zipCons_quiet col3 dones (by omega) q3 hdq
                  have hS : ∀ pd, CInv (CompStB.mk r2 (invalid || e1)
                      (List.zipWith (fun ddo n => applyOpCrefval T ddo n) ddos1 col3) bms1
                      (List.zipWith (fun x1 x2 => x1 :: x2) col3 dones) tails pd false) := fun pd =>
                    ⟨hbq, c2, ft2, z2,
                     by show bms1.length = (List.zipWith _ ddos1 col3).length; omega,
                     by show (List.zipWith _ col3 dones).length = tails.length; omega,
                     by show (List.zipWith _ ddos1 col3).length = tails.length; omega⟩
                  rw [ih _ (hS _)]
                  rfl

theorem decodeCompressedAllB_quiet (T : Tables) (edition : Nat) (enforce : Enforce) (fuel s4max : Nat) (bsq : List Node)
    (err : Bool) (g : Range) (r0 : R) (hT : QClosed T) (hq : QuietList bsq) :
    decodeCompressedAllB T edition enforce fuel s4max bsq err g r0 =
      decodeCompressedAll T edition enforce fuel s4max bsq err g r0 := by
  unfold decodeCompressedAllB decodeCompressedAll
  simp only []
  split
  · rfl
  · have hI : CInv (CompStB.mk r0 err (List.replicate g.count { enforce := enforce })
        (List.replicate g.count {}) (List.replicate g.count []) (List.replicate g.count bsq) false false) :=
      ⟨by intro b hb; exact (List.eq_of_mem_replicate hb),
       by intro d hd; rw [List.eq_of_mem_replicate hd]; exact quietDDO_fresh enforce,
       by intro t' ht x hx'; rw [List.eq_of_mem_replicate ht] at hx'; exact hq x hx',
       by intro t' ht x hx'; rw [List.eq_of_mem_replicate ht] at hx'; simp at hx',
       by simp, by simp, by simp⟩
    have := decodeCompressedLoopB_quiet T edition s4max g hT fuel _ hI
    simp only [CompStB.plain] at this
    rw [← this]
    cases decodeCompressedLoopB T edition s4max g fuel _ with
    | error e => rfl
    | ok st => rfl

/-- **the decoder's data part with the bit-map head is the plain one**, compressed or not, as long as
the expanded template holds no 2 36 YYY operator and no class 33 element -/
theorem decodeDataB_quiet (T : Tables) (fuel : Nat) (t : Template) (enforce : Enforce) (nsub : Nat)
    (compressed : Bool) (s4max : Nat) (data : List Nat) (from0 to0 : Int) (hT : QClosed T)
    (hE : ∀ bsq0, expandSequence T fuel (OP_EXPAND_DELAY_REPL ||| OP_ZDRC_SKIP) t.gabarit = .ok bsq0 →
            ∀ x ∈ bsq0, quietNode x = true) :
    decodeDataB T fuel t enforce nsub compressed s4max data from0 to0 =
      decodeData T fuel t enforce nsub compressed s4max data from0 to0 := by
  unfold decodeDataB decodeData
  by_cases h1 : from0 > nsub
  · rw [if_pos h1, if_pos h1]
  rw [if_neg h1, if_neg h1]
  by_cases h2 : t.descs.isEmpty
  · rw [if_pos h2, if_pos h2]
  rw [if_neg h2, if_neg h2]
  dsimp only
  cases hx : expandSequence T fuel (OP_EXPAND_DELAY_REPL ||| OP_ZDRC_SKIP) t.gabarit with
  | error e => cases e <;> rfl
  | ok bsq0 =>
    obtain ⟨e1, e2⟩ := applyTablesAllB_quiet T t.edition bsq0 { enforce := enforce } [] (quietDDO_fresh enforce) (hE bsq0 hx)
    dsimp only
    rw [e1]
    generalize applyTablesAll T t.edition { enforce := enforce } bsq0 = a at e2
    obtain ⟨bsq, ddoF, err⟩ := a
    dsimp only at e2 ⊢
    by_cases h3 : afAbort bsq
    · rw [if_pos h3, if_pos h3]
    rw [if_neg h3, if_neg h3]
    cases compressed with
    | false =>
      simp only [Bool.not_false, if_true]
      rw [decodeUncompressedB_quiet T t.edition enforce fuel s4max bsq _ _ _ _ hT e2]
      rfl
    | true =>
      simp only [Bool.not_true, Bool.false_eq_true, if_false]
      rw [decodeCompressedAllB_quiet T t.edition enforce fuel s4max bsq err _ _ hT e2]

/-- the implementation limit on associated fields (`decodeDataC`, what the correspondence runs) only
matters for datasets that hold more than 64 bits of associated fields on one element: otherwise the
decoder is `decodeDataB` -/
theorem decodeDataC_eq (T : Tables) (fuel : Nat) (t : Template) (enforce : Enforce) (nsub : Nat) (compressed : Bool)
    (s4max : Nat) (data : List Nat) (from0 to0 : Int)
    (h : ∀ out, decodeDataB T fuel t enforce nsub compressed s4max data from0 to0 = .ok (some out) → afOverflow out = false) :
    decodeDataC T fuel t enforce nsub compressed s4max data from0 to0 =
      decodeDataB T fuel t enforce nsub compressed s4max data from0 to0 := by
  unfold decodeDataC
  split
  · rename_i out he
    rw [h out he]; simp [he]
  · rfl

end Bufr
