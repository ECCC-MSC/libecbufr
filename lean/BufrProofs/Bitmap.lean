import BufrModel.Bitmap
import BufrProofs.NodeFrame
/-
  BufrProofs.Bitmap — the bit-map head in front of `applyTables2node` is inert until a bit-map
  operator (2 36 YYY) or a replicated class 33 element is met: the functions of BufrModel.Bitmap
  then coincide with the plain ones of BufrModel.Ops / BufrModel.Decode.  Plus the bounds the C
  indexing relies on.
-/
namespace Bufr

/-- a descriptor that cannot wake the bit-map head up: not 2 36 YYY, and not a class 33 element
(replicated alone it would be flagged `FLAG_CLASS33`) -/
def quietDesc (d : Nat) : Bool := !(Desc.f d = 2 && Desc.x d = 36) && !(Desc.f d = 0 && Desc.x d = 33)

/-- a node the bit-map head ignores while no bit-map is being defined -/
def quietNode (n : Node) : Bool := !n.flags.class33 && quietDesc n.desc

/-- `DDO_BIT_MAP_FOLLOW` is not set -/
def quietDDO (ddo : DDO) : Prop := hasFlag ddo.flags DDO_BIT_MAP_FOLLOW = false

theorem quietNode_congr (a b : Node) (hd : a.desc = b.desc) (hf : a.flags.class33 = b.flags.class33) :
    quietNode a = quietNode b := by
  unfold quietNode; rw [hd, hf]

theorem quietNode_of {a b : Node} (hb : quietNode b = true) (hd : a.desc = b.desc := by rfl)
    (hf : a.flags.class33 = b.flags.class33 := by rfl) : quietNode a = true := by
  rw [quietNode_congr a b hd hf]; exact hb

def QuietList (l : List Node) : Prop := ∀ x ∈ l, quietNode x = true

theorem QuietList.cons {n : Node} {l : List Node} (hn : quietNode n = true) (hl : QuietList l) : QuietList (n :: l) :=
  List.forall_mem_cons.2 ⟨hn, hl⟩

theorem QuietList.uncons {n : Node} {l : List Node} (h : QuietList (n :: l)) : quietNode n = true ∧ QuietList l :=
  List.forall_mem_cons.1 h

theorem QuietList.append {a b : List Node} (ha : QuietList a) (hb : QuietList b) : QuietList (a ++ b) :=
  List.forall_mem_append.2 ⟨ha, hb⟩

theorem QuietList.take {l : List Node} (h : QuietList l) (k : Nat) : QuietList (l.take k) :=
  fun n hn => h n (List.mem_of_mem_take hn)

theorem QuietList.drop {l : List Node} (h : QuietList l) (k : Nat) : QuietList (l.drop k) :=
  fun n hn => h n (List.mem_of_mem_drop hn)

theorem hasFlag_or (a b f : Nat) (h : b &&& f = 0) : hasFlag (a ||| b) f = hasFlag a f := by
  unfold hasFlag; rw [Nat.and_or_distrib_right, h, Nat.or_zero]

theorem hasFlag_and (a m f : Nat) (h : m &&& f = f) : hasFlag (a &&& m) f = hasFlag a f := by
  unfold hasFlag; rw [Nat.and_assoc, h]

theorem bmPre_quiet (bsq : Unit → List Node) (ddo : DDO) (n : Node)
    (hd : quietDDO ddo) (hn : quietNode n = true) : bmPre bsq ddo {} n = .cont ddo {} := by
  have h236 : n.desc ≠ 236000 := by
    intro e
    unfold quietNode quietDesc at hn
    rw [e] at hn
    simp [Desc.f, Desc.x] at hn
  have hc : n.flags.class33 = false := by
    unfold quietNode at hn; simp at hn; exact hn.1
  unfold quietDDO at hd
  unfold bmPre
  simp [hc, h236, hd]

theorem applyTables2nodeB_quiet (T : Tables) (edition : Nat) (bsq : Unit → List Node) (ddo : DDO) (n : Node)
    (hd : quietDDO ddo) (hn : quietNode n = true) :
    applyTables2nodeB T edition bsq ddo {} n =
      ((applyTables2node T edition ddo n).1, {}, (applyTables2node T edition ddo n).2.1,
       (applyTables2node T edition ddo n).2.2) := by
  unfold applyTables2nodeB
  rw [bmPre_quiet bsq ddo n hd hn]

/-! ### the flag is only ever set by 2 36 YYY -/

theorem resolveV2_flags (ddo : DDO) (x y : Nat) : (resolveV2 ddo x y).ddo.flags = ddo.flags := by
  unfold resolveV2
  repeat' split
  all_goals rfl

theorem badVersionTail_ddo (r : Resolved) (bad : Bool) (x : Nat) : (badVersionTail r bad x).ddo = r.ddo := by
  unfold badVersionTail; split <;> rfl

theorem rcWrap_ddo (r : Resolved) (x : Nat) :
    (if r.rc < 0 then { r with rc := -1 } else { r with rc := (x : Int) }).ddo = r.ddo := by
  split <;> rfl

theorem resolveV3_bitMapFollow (ddo : DDO) (x y v : Nat) (hx : x ≠ 36) :
    hasFlag (resolveV3 ddo x y v).ddo.flags DDO_BIT_MAP_FOLLOW = hasFlag ddo.flags DDO_BIT_MAP_FOLLOW := by
  unfold resolveV3
  split
  · rw [badVersionTail_ddo]; split <;> simp [hasFlag_or, DDO_SUBST_VAL_FOLLOW, DDO_BIT_MAP_FOLLOW]
  · rw [badVersionTail_ddo]; split <;> simp [hasFlag_or, DDO_FO_STATS_VAL_FOLLOW, DDO_BIT_MAP_FOLLOW]
  · exact absurd rfl hx
  · rw [badVersionTail_ddo]; simp [hasFlag_or, DDO_USE_PREV_BIT_MAP, DDO_BIT_MAP_FOLLOW]
  · rw [badVersionTail_ddo]; split <;> simp [hasFlag_or, DDO_QUAL_INFO_FOLLOW, DDO_BIT_MAP_FOLLOW]
  · rfl
  · rfl
  · rfl
  · rfl
  · simp only []
    rw [rcWrap_ddo, resolveV2_flags]

theorem resolveV4_bitMapFollow (ddo : DDO) (x y v : Nat) (hx : x ≠ 36) :
    hasFlag (resolveV4 ddo x y v).ddo.flags DDO_BIT_MAP_FOLLOW = hasFlag ddo.flags DDO_BIT_MAP_FOLLOW := by
  unfold resolveV4
  split
  · rw [badVersionTail_ddo]; split <;> rfl
  · rw [badVersionTail_ddo]; split
    · simp [hasFlag_and, DDO_DEFINE_EVENT, DDO_BIT_MAP_FOLLOW]
    · simp [hasFlag_or, DDO_DEFINE_EVENT, DDO_BIT_MAP_FOLLOW]
  · rw [badVersionTail_ddo]
  · rfl
  · rfl
  · simp only []
    rw [rcWrap_ddo, resolveV3_bitMapFollow ddo x y v hx]

theorem resolveV5_bitMapFollow (ddo : DDO) (x y v : Nat) (hx : x ≠ 36) :
    hasFlag (resolveV5 ddo x y v).ddo.flags DDO_BIT_MAP_FOLLOW = hasFlag ddo.flags DDO_BIT_MAP_FOLLOW := by
  unfold resolveV5
  split
  · rw [badVersionTail_ddo]; split
    · rfl
    · split <;> rfl
  · simp only []
    rw [rcWrap_ddo, resolveV4_bitMapFollow ddo x y v hx]

theorem resolveTableC_bitMapFollow (ddo : DDO) (x y ed : Nat) (hx : x ≠ 36) :
    hasFlag (resolveTableC ddo x y ed).ddo.flags DDO_BIT_MAP_FOLLOW = hasFlag ddo.flags DDO_BIT_MAP_FOLLOW := by
  unfold resolveTableC
  split
  · split
    · exact resolveV5_bitMapFollow ddo x y 5 hx
    · exact resolveV4_bitMapFollow ddo x y 4 hx
    · exact resolveV3_bitMapFollow ddo x y 3 hx
    · exact resolveV2_flags ddo x y ▸ rfl
  · exact resolveV5_bitMapFollow ddo x y ed hx

theorem applyNumeric_branch_ddo {α β γ : Type} (c1 c2 : Prop) [Decidable c1] [Decidable c2] (a b : α) (d : β) (x y z : γ) :
    (if c1 then (if c2 then (a, d, x) else (b, d, y)) else (a, d, z)).2.1 = d := by
  split
  · split <;> rfl
  · rfl

theorem applyNumeric_ddo (ddo : DDO) (n : Node) (e : Enc) :
    (applyNumeric ddo n e).2.1 = ddo ∨ (applyNumeric ddo n e).2.1 = { ddo with localNbitsFollows := 0 } := by
  unfold applyNumeric
  by_cases h1 : ddo.useIeee > 0
  · rw [if_pos h1]; exact Or.inl rfl
  rw [if_neg h1]
  by_cases h2 : ddo.changeRefValOp > 0
  · rw [if_pos h2]; exact Or.inl rfl
  rw [if_neg h2]
  by_cases h3 : ddo.localNbitsFollows > 0
  · rw [if_pos h3]; exact Or.inr (applyNumeric_branch_ddo _ _ _ _ _ _ _ _)
  rw [if_neg h3]
  by_cases h4 : ddo.addNbits ≠ 0
  · rw [if_pos h4]; exact Or.inl (applyNumeric_branch_ddo _ _ _ _ _ _ _ _)
  · rw [if_neg h4]; exact Or.inl (applyNumeric_branch_ddo _ _ _ _ _ _ _ _)

theorem applyWidth_flags (ddo : DDO) (n : Node) (c : Bool) (e : Enc) : (applyWidth ddo n c e).2.1.flags = ddo.flags := by
  unfold applyWidth
  split
  · rfl
  · split
    · rfl
    · rcases applyNumeric_ddo ddo n e with h | h <;> rw [h]
  · rfl

theorem applyTail_flags (ddo : DDO) (n : Node) (e : Enc) (err : Bool) : (applyTail ddo n e err).1.flags = ddo.flags := by
  unfold applyTail
  simp only []
  exact applyWidth_flags _ _ _ _

theorem applyTail_node (ddo : DDO) (n : Node) (e : Enc) (err : Bool) :
    (applyTail ddo n e err).2.1.desc = n.desc ∧ (applyTail ddo n e err).2.1.flags.class33 = n.flags.class33 := by
  unfold applyTail
  simp

theorem applyTables2node_quietDDO (T : Tables) (edition : Nat) (ddo : DDO) (n : Node)
    (hd : quietDDO ddo) (hn : quietNode n = true) : quietDDO (applyTables2node T edition ddo n).1 := by
  unfold quietDDO at hd ⊢
  unfold applyTables2node
  simp only []
  split
  · rename_i hop
    rw [applyTail_flags]
    have hx : Desc.x n.desc ≠ 36 := by
      intro hx
      unfold quietNode quietDesc at hn
      simp [hop.1, hx] at hn
    rw [resolveTableC_bitMapFollow ddo _ _ edition hx]
    exact hd
  · rw [applyTail_flags]; exact hd

theorem applyTables2node_quietNode (T : Tables) (edition : Nat) (ddo : DDO) (n : Node) :
    quietNode (applyTables2node T edition ddo n).2.1 = quietNode n := by
  have h : (applyTables2node T edition ddo n).2.1.desc = n.desc ∧
      (applyTables2node T edition ddo n).2.1.flags.class33 = n.flags.class33 := by
    unfold applyTables2node
    simp only []
    split <;> exact applyTail_node _ _ _ _
  unfold quietNode
  rw [h.1, h.2]

theorem applyOpCrefval_flags (T : Tables) (ddo : DDO) (n : Node) : (applyOpCrefval T ddo n).flags = ddo.flags := by
  unfold applyOpCrefval
  split
  · split
    · split <;> rfl
    · rfl
  · rfl

theorem applyOpCrefval_quiet (T : Tables) (ddo : DDO) (n : Node) (hd : quietDDO ddo) : quietDDO (applyOpCrefval T ddo n) := by
  unfold quietDDO at hd ⊢
  rw [applyOpCrefval_flags]; exact hd

theorem getDescValue_quiet (r r' : R) (n n' : Node) (h : getDescValue r n = some (r', n')) :
    quietNode n' = quietNode n := by
  obtain ⟨v, w, b, rfl⟩ := getDescValue_frame r r' n n' h
  rfl

/-- what the decoder's on-the-fly expansion must preserve: proved from the tables in
`qclosed_of_quietTables` below -/
def QClosed (T : Tables) : Prop :=
  ∀ (f : Nat) (s4 : Option Nat) (n c31 : Node) (rest lst : List Node) (e : Bool),
    (∀ x ∈ n :: c31 :: rest, quietNode x = true) →
    expandNodeDecode T f s4 n c31 rest = .ok (lst, e) → ∀ x ∈ lst, quietNode x = true

/-- a result of the plain subset loop as the loop with the bit-map head returns it: beside an untouched bit-map state -/
def liftB (x : Except XErr (DecSt × List Node × SubsetEnd)) : Except XErr (DecSt × List Node × SubsetEnd × BM) :=
  match x with
  | .ok (a, b, c) => .ok (a, b, c, {})
  | .error e => .error e

theorem liftB_ite {c : Prop} [Decidable c] {a b : Except XErr (DecSt × List Node × SubsetEnd × BM)}
    {a' b' : Except XErr (DecSt × List Node × SubsetEnd)} (h1 : c → a = liftB a') (h2 : ¬ c → b = liftB b') :
    (if c then a else b) = liftB (if c then a' else b') := by
  split
  · exact h1 ‹c›
  · exact h2 ‹¬ c›

theorem decodeSubsetLoopB_quiet (T : Tables) (edition s4max : Nat) (hT : QClosed T) :
    ∀ (fuel : Nat) (ddo : DDO) (st : DecSt) (done todo : List Node),
    quietDDO ddo → (∀ x ∈ todo, quietNode x = true) →
    decodeSubsetLoopB T edition s4max fuel ddo {} st done todo =
      liftB (decodeSubsetLoop T edition s4max fuel ddo st done todo) := by
  intro fuel
  induction fuel with
  | zero => intro ddo st done todo _ _; rfl
  | succ f ih =>
    intro ddo st done todo hd hq
    cases todo with
    | nil => rfl
    | cons n rest =>
      obtain ⟨hn, hrest⟩ := List.forall_mem_cons.1 hq
      unfold decodeSubsetLoopB decodeSubsetLoop
      rw [applyTables2nodeB_quiet T edition _ ddo n hd hn]
      have hd1 := applyTables2node_quietDDO T edition ddo n hd hn
      have hn1 := applyTables2node_quietNode T edition ddo n
      generalize applyTables2node T edition ddo n = a at hd1 hn1
      obtain ⟨ddo1, n1, err⟩ := a
      dsimp only at hd1 hn1 ⊢
      refine liftB_ite (fun _ => ih ddo1 _ (n1 :: done) rest hd1 hrest) (fun _ => ?_)
      cases hg : getDescValue st.r n1 with
      | none => rfl
      | some p =>
        obtain ⟨r2, n2⟩ := p
        have hn2 : quietNode n2 = true := by rw [getDescValue_quiet _ _ _ _ hg, hn1]; exact hn
        have hd2 := applyOpCrefval_quiet T ddo1 n2 hd1
        dsimp only
        refine liftB_ite (fun _ => ?_) (fun _ => ih _ _ _ _ hd2 hrest)
        cases rest with
        | nil => rfl
        | cons c31 rest' =>
          obtain ⟨hc31, hrest'⟩ := List.forall_mem_cons.1 hrest
          dsimp only
          refine liftB_ite (fun _ => ?_) (fun _ => ih _ _ _ _ hd2 hrest)
          cases hg3 : getDescValue r2 c31 with
          | none => rfl
          | some p3 =>
            obtain ⟨r3, c31r⟩ := p3
            have hc31r : quietNode c31r = true := by rw [getDescValue_quiet _ _ _ _ hg3]; exact hc31
            dsimp only
            cases hx : expandNodeDecode T f (some s4max) n2 c31r rest' with
            | error e => cases e <;> rfl
            | ok p4 =>
              obtain ⟨lst, eflag⟩ := p4
              have hl := hT f (some s4max) n2 c31r rest' lst eflag
                (List.forall_mem_cons.2 ⟨hn2, List.forall_mem_cons.2 ⟨hc31r, hrest'⟩⟩) hx
              dsimp only
              refine liftB_ite (fun _ => rfl) (fun _ => ?_)
              match lst, hl with
              | [], _ => rfl
              | [_], _ => rfl
              | _ :: _ :: more, hl =>
                exact ih _ _ _ more hd2 (List.forall_mem_cons.1 (List.forall_mem_cons.1 hl).2).2

theorem applyTablesAllB_quiet (T : Tables) (edition : Nat) :
    ∀ (ns : List Node) (ddo : DDO) (doneRev : List Node), quietDDO ddo → QuietList ns →
    applyTablesAllB T edition ddo {} doneRev ns =
      ((applyTablesAll T edition ddo ns).1, (applyTablesAll T edition ddo ns).2.1, {}, (applyTablesAll T edition ddo ns).2.2) ∧
    QuietList (applyTablesAll T edition ddo ns).1 := by
  intro ns
  induction ns with
  | nil => intro ddo doneRev _ h; exact ⟨rfl, h⟩
  | cons n ns ih =>
    intro ddo doneRev hd hq
    obtain ⟨hn, hrest⟩ := hq.uncons
    unfold applyTablesAllB applyTablesAll
    rw [applyTables2nodeB_quiet T edition _ ddo n hd hn]
    have hd1 := applyTables2node_quietDDO T edition ddo n hd hn
    have hn1 := applyTables2node_quietNode T edition ddo n
    generalize applyTables2node T edition ddo n = a at hd1 hn1
    obtain ⟨ddo1, n1, err⟩ := a
    simp only [] at hd1 hn1 ⊢
    obtain ⟨e1, e2⟩ := ih ddo1 (n1 :: doneRev) hd1 hrest
    rw [e1]
    exact ⟨rfl, .cons (hn1.trans hn) e2⟩

theorem quietDDO_fresh (enforce : Enforce) : quietDDO { enforce := enforce } := by
  unfold quietDDO hasFlag DDO_BIT_MAP_FOLLOW; simp

theorem decodeUncompressedB_quiet (T : Tables) (edition : Nat) (enforce : Enforce) (fuel s4max : Nat)
    (bsq : List Node) (nbitsSeq : Int) (lenConst : Bool) (from_ to : Int) (hT : QClosed T)
    (hq : QuietList bsq) :
    ∀ (k j : Nat) (st : DecSt) (acc : List (List Node)),
    decodeUncompressedB T edition enforce fuel s4max bsq nbitsSeq lenConst from_ to k j st acc =
      decodeUncompressed T edition enforce fuel s4max bsq nbitsSeq lenConst from_ to k j st acc := by
  intro k
  induction k with
  | zero => intro j st acc; simp [decodeUncompressedB, decodeUncompressed]
  | succ k ih =>
    intro j st acc
    unfold decodeUncompressedB decodeUncompressed
    rw [decodeSubsetLoopB_quiet T edition s4max hT fuel _ st [] bsq (quietDDO_fresh enforce) hq]
    cases decodeSubsetLoop T edition s4max fuel { enforce := enforce } st [] bsq with
    | error e => simp [liftB]
    | ok p =>
      obtain ⟨st1, nodes, fin⟩ := p
      simp only [liftB]
      cases fin with
      | complete => simp only []; exact ih _ _ _
      | shortRead => rfl
      | tooLong => rfl

/-- no Table D sequence holds a 2 36 YYY operator or a class 33 element -/
def QuietTables (T : Tables) : Prop :=
  ∀ d e, T.fetchD d = some e → ∀ m ∈ e.members, quietDesc m = true

theorem extraOf_quiet {body : List Node} (h : QuietList body) : extraOf body = false := by
  match body, h with
  | [], _ => rfl
  | [b], h =>
    have hb := h.uncons.1
    unfold quietNode quietDesc at hb
    simp only [Bool.and_eq_true, Bool.not_eq_true', Bool.and_eq_false_imp, decide_eq_true_eq, decide_eq_false_iff_not] at hb
    simp only [extraOf, decide_eq_false_iff_not, not_and]
    exact hb.2.2
  | _ :: _ :: _, _ => rfl

theorem replicas_quiet (T : Tables) (body : List Node) (count : Nat) (h : QuietList body) :
    QuietList (replicas T (extraOf body) body count) := by
  intro x hx
  obtain ⟨m, hm, hd, hf⟩ := mem_replicas hx
  exact quietNode_of (h m hm) hd (by rw [hf, extraOf_quiet h, Bool.or_false])

theorem assignDescriptors_quiet (T : Tables) (flags : Nat) (body : List Node) (h : QuietList body) :
    QuietList (assignDescriptors T flags body) := by
  intro x hx
  unfold assignDescriptors at hx
  obtain ⟨n, hn, rfl⟩ := List.mem_map.1 hx
  split
  · exact quietNode_of (h n hn)
  · exact quietNode_of (h n hn) (resolveUnknown_desc T n) (by rw [resolveUnknown_flags])

theorem mkNodes_quiet (T : Tables) (ms : List Nat) (h : ∀ m ∈ ms, quietDesc m = true) : QuietList (ms.map (mkNode T)) := by
  intro x hx
  obtain ⟨c, hc, rfl⟩ := List.mem_map.1 hx
  have hf : (mkNode T c).flags.class33 = false := by
    unfold mkNode; split <;> rfl
  rw [quietNode, hf, mkNode_desc]
  exact h c hc

/-- whatever the expansion does to a node keeps its descriptor, and sets `FLAG_CLASS33` only on a class 33
element; the nodes it adds come from Table D -/
theorem Expands.quiet {T : Tables} (hT : QuietTables T) {flags : Nat} {ns r : List Node} {e : Bool}
    (h : Expands T flags ns r e) : QuietList ns → QuietList r := by
  induction h with
  | nil => exact id
  | kept _ _ ih => exact fun hq => .cons hq.uncons.1 (ih hq.uncons.2)
  | fixed _ _ _ _ _ _ ih1 ih2 =>
    intro hq
    obtain ⟨hn, hrest⟩ := hq.uncons
    exact .append (.cons (quietNode_of hn) (ih1 (replicas_quiet T _ _ (hrest.take _)))) (ih2 (hrest.drop _))
  | lone => exact fun hq => .cons (quietNode_of hq.uncons.1) (fun _ hx => nomatch hx)
  | delayed _ _ _ _ _ _ _ _ ih1 ih2 =>
    intro hq
    obtain ⟨hn, hq⟩ := hq.uncons
    obtain ⟨hc, hrest⟩ := hq.uncons
    exact .append (.cons (quietNode_of hn) (.cons (quietNode_of hc) (ih1 (replicas_quiet T _ _ (hrest.take _)))))
      (ih2 (hrest.drop _))
  | deferred _ _ _ _ _ _ ih =>
    intro hq
    obtain ⟨hn, hq⟩ := hq.uncons
    obtain ⟨hc, hrest⟩ := hq.uncons
    exact .append (.cons hn (.cons (quietNode_of hc) (assignDescriptors_quiet T _ _ (hrest.take _)))) (ih (hrest.drop _))
  | noFactor _ _ _ _ _ ih => exact fun hq => ih hq.uncons.2
  | seq _ _ hfd hm _ _ ih1 ih2 =>
    intro hq
    cases memberNodes_eq T _ _ _ hm
    exact .append (.cons (quietNode_of hq.uncons.1) (ih1 (mkNodes_quiet T _ (hT _ _ hfd)))) (ih2 hq.uncons.2)
  | elem _ _ _ _ ih => exact fun hq => .cons (quietNode_of hq.uncons.1) (ih hq.uncons.2)

theorem quiet_ok (T : Tables) (hT : QuietTables T) {f flags : Nat} {s4 : Option Nat} {ns r : List Node} {e : Bool}
    (hq : QuietList ns) (h : expandList T f flags s4 ns = .ok (r, e)) : QuietList r :=
  (expandList_sound h).quiet hT hq

theorem qclosed_of_quietTables (T : Tables) (hT : QuietTables T) : QClosed T := by
  intro f s4 n c31 rest lst e hq h
  obtain ⟨hn, hq⟩ := QuietList.uncons hq
  obtain ⟨hc, hrest⟩ := hq.uncons
  unfold expandNodeDecode at h
  rcases ite_eq_cases h with ⟨_, h⟩ | ⟨_, h⟩
  · cases h
    exact QuietList.cons hn (.cons hc hrest)
  rcases ite_eq_cases h with ⟨_, h⟩ | ⟨_, h⟩
  · rcases ite_eq_cases h with ⟨_, h⟩ | ⟨_, h⟩
    · cases h
    split at h
    · cases h
    · rename_i sub e1 hs
      cases h
      exact QuietList.append (.cons (quietNode_of hn) (.cons (quietNode_of hc)
        ((replDescriptors_sound hs).quiet hT (replicas_quiet T _ _ (hrest.take _))))) (hrest.drop _)
  · cases h
    exact QuietList.append (.cons hn (.cons (quietNode_of hc) (assignDescriptors_quiet T _ _ (hrest.take _)))) (hrest.drop _)

theorem expandSequence_quiet (T : Tables) (hT : QuietTables T) (fuel flags : Nat) (ns bsq0 : List Node)
    (hq : ∀ n ∈ ns, quietNode n = true) (h : expandSequence T fuel flags ns = .ok bsq0) :
    ∀ x ∈ bsq0, quietNode x = true :=
  quiet_ok T hT hq (expandSequence_ok h)

theorem createDatasubsetB_quiet (T : Tables) (hT : QuietTables T) (fuel : Nat) (t : Template)
    (ht : ∀ n ∈ t.gabarit, quietNode n = true) : createDatasubsetB T fuel t = createDatasubset T fuel t := by
  unfold createDatasubsetB createDatasubset
  have key : ∀ ns, QuietList ns →
      (let (ns', _, _, err) := applyTablesAllB T t.edition { enforce := .strict } {} [] ns
       if afAbort ns' then (.error .abort : Except XErr (Subset × Bool)) else .ok ({ nodes := mkvalAll ns' }, err)) =
      (let (ns', _, err) := applyTablesAll T t.edition { enforce := .strict } ns
       if afAbort ns' then .error .abort else .ok ({ nodes := mkvalAll ns' }, err)) := by
    intro ns hq
    rw [(applyTablesAllB_quiet T t.edition ns { enforce := .strict } [] (quietDDO_fresh .strict) hq).1]
  split
  · cases hx : expandSequence T fuel (OP_EXPAND_DELAY_REPL ||| OP_ZDRC_SKIP) t.gabarit with
    | error e => rfl
    | ok ns => exact key ns (expandSequence_quiet T hT fuel _ t.gabarit ns ht hx)
  · exact key t.gabarit ht

theorem expandDatasubsetB_quiet (T : Tables) (hT : QuietTables T) (fuel : Nat) (t : Template) (s : Subset)
    (hs : ∀ n ∈ s.nodes, quietNode n = true) : expandDatasubsetB T fuel t s = expandDatasubset T fuel t s := by
  unfold expandDatasubsetB expandDatasubset
  cases hx : expandSequence T fuel (OP_EXPAND_DELAY_REPL ||| OP_ZDRC_SKIP) s.nodes with
  | error e => rfl
  | ok ns =>
    have hq := expandSequence_quiet T hT fuel _ s.nodes ns hs hx
    simp only []
    rw [(applyTablesAllB_quiet T t.edition ns { enforce := .strict } [] (quietDDO_fresh .strict) hq).1]

/-! ### the bit-map arrays stay in bounds

`BufrDPBM` holds three C arrays of `nb_codes` entries.  `index[]` is written once by
`bufr_index_dpbm`; `dp[nb_dp++] = i` in `bufr_init_dpbm` is only safe because the bit-map is
evaluated at most once per `BufrDDOp` (`remain_dpi` is −1 afterwards and nothing re-arms it) and
each evaluation looks at `nb_codes` bits at most; `index[dp[idp-1]]` in the marker branch is only
safe because every `dp` entry is below `nb_codes`. -/

def BM.WF (bm : BM) : Prop :=
  match bm.dpbm with
  | none => True
  | some d =>
    (bm.remainDpi ≥ 0 → d.dp = []) ∧ (∀ k ∈ d.dp, k < d.index.length) ∧
    d.dp.length ≤ d.index.length ∧ d.dpOverflow = false

/-- `dp` after the evaluation: the positions, among the first `nb` bits, of the bits that are 0 -/
def zeroBits (nb : Nat) : List Node → Nat → List Nat
  | [], _ => []
  | n :: ns, i => if i ≥ nb then [] else (if n.ival = 0 then [i] else []) ++ zeroBits nb ns (i + 1)

theorem zeroBits_length (nb : Nat) : ∀ (ns : List Node) (i : Nat), (zeroBits nb ns i).length ≤ nb - i := by
  intro ns
  induction ns with
  | nil => intro i; simp [zeroBits]
  | cons m ms ih =>
    intro i
    unfold zeroBits
    split
    · simp
    · have := ih (i + 1)
      split <;> simp <;> omega

theorem mem_zeroBits (nb : Nat) : ∀ (ns : List Node) (i k : Nat),
    k ∈ zeroBits nb ns i ↔ i ≤ k ∧ k < nb ∧ ∃ n, ns[k - i]? = some n ∧ n.ival = 0
  | [], i, k => by simp [zeroBits]
  | n :: ns, i, k => by
    unfold zeroBits
    split
    · rename_i h
      simp only [List.not_mem_nil, false_iff, not_and]
      intro h1 h2; omega
    · rename_i h
      have hi : i < nb := by omega
      simp only [List.mem_append]
      rw [mem_zeroBits nb ns (i + 1) k]
      constructor
      · intro hh
        rcases hh with hh | hh
        · split at hh
          · rename_i hz
            simp only [List.mem_singleton] at hh
            subst hh
            exact ⟨Nat.le_refl _, hi, n, by simp, hz⟩
          · simp at hh
        · obtain ⟨a, b, m, c, d⟩ := hh
          refine ⟨by omega, b, m, ?_, d⟩
          have : k - i = (k - (i + 1)) + 1 := by omega
          rw [this, List.getElem?_cons_succ]; exact c
      · intro ⟨a, b, m, c, d⟩
        by_cases hk : k = i
        · subst hk
          simp only [Nat.sub_self, List.getElem?_cons_zero, Option.some.injEq] at c
          subst c
          left; simp [d]
        · right
          refine ⟨by omega, b, m, ?_, d⟩
          have : k - i = (k - (i + 1)) + 1 := by omega
          rw [this, List.getElem?_cons_succ] at c; exact c

/-- the zero bits come out in increasing order (so the k-th marker stands for the k-th element flagged present) -/
theorem zeroBits_sorted (nb : Nat) : ∀ (ns : List Node) (i : Nat), (zeroBits nb ns i).Pairwise (· < ·)
  | [], i => by simp [zeroBits]
  | n :: ns, i => by
    unfold zeroBits
    split
    · simp
    · have ih := zeroBits_sorted nb ns (i + 1)
      split
      · simp only [List.singleton_append, List.pairwise_cons]
        refine ⟨?_, ih⟩
        intro k hk
        have := (mem_zeroBits nb ns (i + 1) k).mp hk
        omega
      · simpa using ih

/-- the `for` loop of `bufr_init_dpbm` appends the zero bits to `dp[]`; no write goes past the end of the array
as long as `dp[]` holds no more entries than bits have been looked at -/
theorem initBits_eq (nb : Nat) : ∀ (ns : List Node) (i : Nat) (d : DPBM), d.dp.length ≤ i → d.dpOverflow = false →
    initBits nb ns i d = { d with dp := d.dp ++ zeroBits nb ns i }
  | [], i, d, _, _ => by simp [initBits, zeroBits]
  | n :: ns, i, d, h1, h2 => by
    unfold initBits zeroBits
    by_cases hi : i ≥ nb
    · rw [if_pos hi, if_pos hi, List.append_nil]
    · rw [if_neg hi, if_neg hi]
      by_cases hz : n.ival = 0
      · have hlen : ¬ d.dp.length ≥ nb := by omega
        rw [if_pos hz, if_pos hz, initBits_eq nb ns (i + 1) _ (by simp; omega) (by simp [h2, hlen])]
        simp [h2, hlen]
      · rw [if_neg hz, if_neg hz, initBits_eq nb ns (i + 1) d (by omega) h2, List.nil_append]

/-- the data elements the bit-map is about: the nodes in front of the first start operator that
are neither replication nor sequence descriptors, nor operators (2 05 YYY aside), nor left out by a
replication that occurs zero times — as 1-based positions -/
def dataPositions (bsq : List Node) : List Nat := (indexScan bsq 0 []).1

/-- FM 94 reading used by the library: the data entities a bit-map may refer to are the nodes in
front of the first operator that opens a bit-map section, leaving out what a zero-count replication
left out, and every replication, sequence and operator descriptor other than 2 05 YYY -/
def isDataEntity (n : Node) : Bool := !isDdForDpbm n

/-- positions (1-based, counted from `i+1`) of the data entities of `l` up to the first start operator -/
def dataPositionsSpec : List Node → Nat → List Nat
  | [], _ => []
  | n :: ns, i =>
    if isStartDpbm n.desc then []
    else (if isDataEntity n then [i + 1] else []) ++ dataPositionsSpec ns (i + 1)

theorem indexScan_spec : ∀ (l : List Node) (i : Nat) (acc : List Nat),
    (indexScan l i acc).1 = acc.reverse ++ dataPositionsSpec l i
  | [], i, acc => by simp [indexScan, dataPositionsSpec]
  | n :: ns, i, acc => by
    unfold indexScan dataPositionsSpec isDataEntity
    split
    · simp
    · split
      · rw [indexScan_spec ns (i + 1) acc]; simp [*]
      · rw [indexScan_spec ns (i + 1) ((i + 1) :: acc)]; simp [*]

theorem dataPositions_spec (bsq : List Node) : dataPositions bsq = dataPositionsSpec bsq 0 := by
  unfold dataPositions
  rw [indexScan_spec]; simp

/-- every indexed position names a data entity of the sequence, in front of the first start operator -/
theorem dataPositionsSpec_mem : ∀ (l : List Node) (i p : Nat), p ∈ dataPositionsSpec l i →
    i < p ∧ p ≤ i + l.length ∧ ∃ n, l[p - i - 1]? = some n ∧ isDataEntity n = true ∧
      ∀ k, k < p - i - 1 → ∀ m, l[k]? = some m → isStartDpbm m.desc = false
  | [], i, p, h => by simp [dataPositionsSpec] at h
  | n :: ns, i, p, h => by
    unfold dataPositionsSpec at h
    split at h
    · simp at h
    · rename_i hs
      have hs' : isStartDpbm n.desc = false := by simpa using hs
      simp only [List.mem_append] at h
      rcases h with h | h
      · split at h
        · rename_i hd
          simp only [List.mem_singleton] at h
          subst h
          refine ⟨by omega, by simp, n, by simp, hd, ?_⟩
          intro k hk; omega
        · simp at h
      · obtain ⟨a, b, m, c, d, e⟩ := dataPositionsSpec_mem ns (i + 1) p h
        refine ⟨by omega, by simp; omega, m, ?_, d, ?_⟩
        · have : p - i - 1 = (p - (i + 1) - 1) + 1 := by omega
          rw [this, List.getElem?_cons_succ]; exact c
        · intro k hk m' hm'
          cases k with
          | zero => simp at hm'; rw [← hm']; exact hs'
          | succ k' =>
            rw [List.getElem?_cons_succ] at hm'
            exact e k' (by omega) m' hm'

/-- the bits of the bit-map as the library reads them: the integer views of the nodes from the
first 0 31 031 behind the start operator on -/
def bitmapNodes (bsq : List Node) : List Node :=
  match startPos bsq with
  | none => []
  | some p => (bsq.drop p).dropWhile (fun n => n.desc ≠ 31031)

theorem initDpbm_eq (d : DPBM) (bsq : List Node) (hd : d.dp = []) (ho : d.dpOverflow = false) :
    initDpbm d bsq (startPos bsq) = { d with dp := zeroBits d.index.length (bitmapNodes bsq) 0 } := by
  unfold initDpbm bitmapNodes
  cases startPos bsq with
  | none => cases d; cases hd; rfl
  | some p =>
    dsimp only
    rw [initBits_eq _ _ 0 d (by rw [hd]; exact Nat.le_refl 0) ho, hd]
    rfl

theorem initDpbm_eval (bsq0 : List Node) :
    (initDpbm { index := dataPositions bsq0 } bsq0 (startPos bsq0)).dp =
      zeroBits (dataPositions bsq0).length (bitmapNodes bsq0) 0 ∧
    (initDpbm { index := dataPositions bsq0 } bsq0 (startPos bsq0)).index = dataPositions bsq0 := by
  rw [initDpbm_eq _ _ rfl rfl]
  exact ⟨rfl, rfl⟩

theorem ensureIndexed_WF (bm : BM) (bsq : Unit → List Node) (h : bm.WF) : (ensureIndexed bm bsq).WF := by
  unfold ensureIndexed
  split
  · unfold indexDpbm BM.WF
    simp
  · exact h

/-- the state after the head of `bufr_apply_tables2node` -/
def BMPre.bm : BMPre → BM
  | .ret b _ => b
  | .cont _ b => b

theorem BM.WF.eval {bm : BM} {d : DPBM} (hw : bm.WF) (hs : bm.dpbm = some d) (h0 : bm.remainDpi ≥ 0) (bsq : List Node) :
    BM.WF { bm with dpbm := some (initDpbm d bsq (startPos bsq)), remainDpi := -1 } := by
  unfold BM.WF at hw
  rw [hs] at hw
  rw [initDpbm_eq d bsq (hw.1 h0) hw.2.2.2]
  have hlen := zeroBits_length d.index.length (bitmapNodes bsq) 0
  refine ⟨fun hc => absurd hc (show ¬ (-1 : Int) ≥ 0 by decide), fun k hk => ?_, by omega, hw.2.2.2⟩
  exact ((mem_zeroBits _ _ _ _).1 hk).2.1

/-- **every step keeps the bit-map arrays in bounds**: no write past `dp[nb_codes-1]`, every `dp`
entry a valid subscript of `index[]` -/
theorem bmPre_WF (bsq : Unit → List Node) (ddo : DDO) (bm : BM) (n : Node) (h : bm.WF) : (bmPre bsq ddo bm n).bm.WF := by
  unfold bmPre
  refine prop_ite (P := fun p : BMPre => p.bm.WF) (fun _ => ?_) (fun _ => ?_)
  · -- a marker operator: the state is returned as it is
    split
    · exact h
    · refine prop_ite (P := fun p : BMPre => p.bm.WF) (fun _ => h) (fun _ => ?_)
      split
      · exact h
      · split
        · exact h
        · split <;> exact h
  refine prop_ite (P := fun p : BMPre => p.bm.WF) (fun _ => ensureIndexed_WF bm bsq h) (fun _ => ?_)
  refine prop_ite (P := fun p : BMPre => p.bm.WF) (fun _ => ensureIndexed_WF bm bsq h) (fun _ => ?_)
  refine prop_ite (P := fun p : BMPre => p.bm.WF) (fun _ => ?_) (fun _ => ?_)
  · -- the count-down over the 0 31 031 of the bit-map
    refine prop_ite (P := BM.WF) (fun _ => ?_) (fun _ => h)
    unfold BM.WF at h ⊢
    dsimp only
    split at h
    · trivial
    · exact ⟨fun _ => h.1 (by omega), h.2⟩
  refine prop_ite (P := fun p : BMPre => p.bm.WF) (fun _ => ?_) (fun _ => h)
  -- the first descriptor behind the bit-map: it is evaluated, once
  have hw := ensureIndexed_WF bm bsq h
  generalize ensureIndexed bm bsq = bm1 at hw
  dsimp only
  split
  · exact hw
  · rename_i d hs
    refine prop_ite (P := fun p : BMPre => p.bm.WF) (fun h0 => hw.eval hs (by omega) _) (fun _ => ?_)
    exact prop_ite (P := fun p : BMPre => p.bm.WF) (fun h0 => hw.eval hs (by omega) _) (fun _ => hw)

theorem applyTables2nodeB_WF (T : Tables) (edition : Nat) (bsq : Unit → List Node) (ddo : DDO) (bm : BM) (n : Node)
    (h : bm.WF) : (applyTables2nodeB T edition bsq ddo bm n).2.1.WF := by
  have := bmPre_WF bsq ddo bm n h
  unfold applyTables2nodeB
  split
  · rename_i bm1 n1 he; rw [he] at this; exact this
  · rename_i ddo1 bm1 he; rw [he] at this; exact this

theorem decodeSubsetLoopB_WF (T : Tables) (edition s4max : Nat) :
    ∀ (fuel : Nat) (ddo : DDO) (bm : BM) (st : DecSt) (done todo : List Node)
      (st' : DecSt) (out : List Node) (fin : SubsetEnd) (bm' : BM),
    bm.WF → decodeSubsetLoopB T edition s4max fuel ddo bm st done todo = .ok (st', out, fin, bm') → bm'.WF := by
  intro fuel ddo bm st done todo st' out fin bm'
  let P (x : Except XErr (DecSt × List Node × SubsetEnd × BM)) : Prop := x = .ok (st', out, fin, bm') → bm'.WF
  have ok : ∀ (a : DecSt) (b : List Node) (c : SubsetEnd) (bm1 : BM), bm1.WF → P (.ok (a, b, c, bm1)) := by
    intro a b c bm1 hw he
    cases he; exact hw
  have err : ∀ e, P (.error e) := fun e he => nomatch he
  show bm.WF → P _
  induction fuel generalizing ddo bm st done todo with
  | zero => intro _; exact err _
  | succ f ih =>
    intro hw
    cases todo with
    | nil => exact ok _ _ _ _ hw
    | cons n rest =>
      unfold decodeSubsetLoopB
      have hw1 := applyTables2nodeB_WF T edition (fun _ => done.reverse ++ n :: rest) ddo bm n hw
      generalize applyTables2nodeB T edition (fun _ => done.reverse ++ n :: rest) ddo bm n = a at hw1
      obtain ⟨ddo1, bm1, n1, e1⟩ := a
      dsimp only at hw1 ⊢
      refine prop_ite (P := P) (fun _ => ih _ _ _ _ _ hw1) (fun _ => ?_)
      cases getDescValue st.r n1 with
      | none => exact ok _ _ _ _ hw1
      | some p =>
        dsimp only
        refine prop_ite (P := P) (fun _ => ?_) (fun _ => ih _ _ _ _ _ hw1)
        cases rest with
        | nil => exact err _
        | cons c31 rest' =>
          dsimp only
          refine prop_ite (P := P) (fun _ => ?_) (fun _ => ih _ _ _ _ _ hw1)
          cases getDescValue p.1 c31 with
          | none => exact ok _ _ _ _ hw1
          | some p3 =>
            dsimp only
            cases expandNodeDecode T f (some s4max) p.2 p3.2 rest' with
            | error e =>
              cases e with
              | null => exact ok _ _ _ _ hw1
              | fuel => exact err _
              | abort => exact err _
            | ok p4 =>
              dsimp only
              refine prop_ite (P := P) (fun _ => ok _ _ _ _ hw1) (fun _ => ?_)
              match p4.1 with
              | [] => exact err _
              | [_] => exact err _
              | _ :: _ :: _ => exact ih _ _ _ _ _ hw1

/-- **a marker operator stands for the k-th element flagged present.**  Once the bit-map has been
evaluated over the sequence `bsq0` (`d.dp` = the zero bits among the first `|dataPositions|` bit-map
nodes, `initDpbm_eval`), the `k+1`-th replica of a marker operator (2 23 255, 2 24 255, 2 25 255,
2 32 255) is given the encoding (type, width, scale, reference value, associated-field width) of the
data element at `dataPositions[zeroBits[k]]`, and a value of that element's type — nothing else
changes, and the operator state is not touched. -/
theorem marker_refers (bsq0 : List Node) (bsq : Unit → List Node) (ddo : DDO) (r : Int) (d : DPBM) (n : Node)
    (k pos q : Nat) (cbm : Node)
    (hd : d.dp = zeroBits (dataPositions bsq0).length (bitmapNodes bsq0) 0 ∧ d.index = dataPositions bsq0)
    (hm : isMarkerDpbm n.desc = true) (hk : n.replRank = k + 1)
    (hz : (zeroBits (dataPositions bsq0).length (bitmapNodes bsq0) 0)[k]? = some pos)
    (hq1 : (dataPositions bsq0)[pos]? = some (q + 1)) (hq2 : (bsq ())[q]? = some cbm) :
    bmPre bsq ddo { dpbm := some d, remainDpi := r } n =
      .ret { dpbm := some d, remainDpi := r }
        { n with enc := cbm.enc, val := (markerVal cbm).1, afW := (markerVal cbm).2.1, afBits := (markerVal cbm).2.2 } := by
  have h3 : k < (dataPositions bsq0).length := by
    have h2 := zeroBits_length (dataPositions bsq0).length (bitmapNodes bsq0) 0
    have := (List.getElem?_eq_some_iff.1 hz).1
    omega
  unfold bmPre
  simp only [Option.isSome_some, hm, and_self, if_true]
  rw [hk]
  simp only [if_false, Nat.add_sub_cancel, hd.1, hz, hd.2, hq1, Nat.add_one_ne_zero, hq2]
  rw [if_neg (by simp only [false_or]; omega)]

end Bufr
