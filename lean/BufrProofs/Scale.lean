import BufrModel.Scale
import BufrProofs.SoftFloat
/-
  T-Scale: error analysis of the double-precision pair `cvtI64ToDval` / `cvtDvalToI64` (helper
  lemmas for C08 and for every codec theorem that converts physical values).

  On the domain `pow(10, ±scale)` is exact, so both directions scale by the exact `T10 e.scale` and
  the analysis is that of `SF.fl` with a multiplier (BufrProofs/SoftFloat.lean) at `p = 53`.
-/
namespace Bufr.Scale
open Bufr Bufr.SF

/-- unit round-off of binary64 -/
def u53 : ℚ := 1 / 2 ^ 53

theorem u53_pos : 0 < u53 := by unfold u53; positivity

theorem u53_eq : (2:ℚ) ^ (-((53:ℕ):ℤ)) = u53 := by
  unfold u53; rw [zpow_neg, zpow_natCast]; norm_num

theorem u53_le_one : u53 ≤ 1 := by unfold u53; norm_num

theorem fl53_err (q : ℚ) : |fl 53 q - q| ≤ |q| * u53 := fl_err_le 53 u53_eq.le q

theorem fl53_abs_le (q : ℚ) : |fl 53 q| ≤ |q| + |q| * u53 := by
  have := fl_abs_le 53 q; rwa [u53_eq] at this

/-- the domain of the C08 theorems: width 1..32, |reference| ≤ 2^30, scale −16..15
(every numeric entry of the shipped Table B files and the synthetic sweep of the check) -/
structure Enc.Valid (e : Enc) : Prop where
  n1 : 1 ≤ e.nbits
  n32 : e.nbits ≤ 32
  r : |e.ref| ≤ 2 ^ 30
  s1 : -16 ≤ e.scale
  s2 : e.scale ≤ 15

instance (e : Enc) : Decidable e.Valid :=
  decidable_of_iff (1 ≤ e.nbits ∧ e.nbits ≤ 32 ∧ |e.ref| ≤ 2 ^ 30 ∧ -16 ≤ e.scale ∧ e.scale ≤ 15)
    ⟨fun ⟨a, b, c, d, f⟩ => ⟨a, b, c, d, f⟩, fun ⟨a, b, c, d, f⟩ => ⟨a, b, c, d, f⟩⟩

abbrev T10 (s : ℤ) : ℚ := (10:ℚ) ^ s

theorem T10_pos (s : ℤ) : 0 < T10 s := zpow_pos (by norm_num) _

theorem T10_natCast (n : ℕ) : T10 (n:ℤ) = (((10:ℤ) ^ n : ℤ) : ℚ) := by
  unfold T10; push_cast; rw [zpow_natCast]

theorem T10_ge (e : Enc) (hv : e.Valid) : (1:ℚ) / 10 ^ 16 ≤ T10 e.scale :=
  calc (1:ℚ) / 10 ^ 16 = (10:ℚ) ^ (-16:ℤ) := by norm_num
    _ ≤ (10:ℚ) ^ e.scale := zpow_le_zpow_right₀ (by norm_num) hv.s1

/-! ### the `pow` contract: `pow10 s` is the correctly rounded `10^s` -/

theorem pow10_err (s : ℤ) : |pow10 s - T10 s| ≤ T10 s * u53 := by
  unfold pow10
  rw [pow10r_eq]
  have := fl53_err ((10:ℚ) ^ s)
  rwa [abs_of_pos (T10_pos s)] at this

theorem pow10_pos (s : ℤ) : 0 < pow10 s := by
  unfold pow10
  rw [pow10r_eq]
  exact fl_pos 53 (by norm_num) (T10_pos s)

/-- `pow(10, s)` is exact for `0 ≤ s ≤ 22` (`10^s = 5^s · 2^s`, `5^22 < 2^53`) -/
theorem pow10_exact (s : ℤ) (h0 : 0 ≤ s) (h1 : s ≤ 22) : pow10 s = T10 s := by
  obtain ⟨n, rfl⟩ := Int.eq_ofNat_of_zero_le h0
  show fl 53 (pow10r n) = (10:ℚ) ^ (n:ℤ)
  rw [pow10r_eq, zpow_natCast]
  exact fl_ten_pow 53 n (lt_of_le_of_lt (pow_le_pow_right₀ (by norm_num) (by omega)) (by norm_num : (5:ℤ) ^ 22 < 2 ^ 53))

theorem pow10_nat (n : ℕ) (hn : n ≤ 22) : pow10 (n:ℤ) = (((10:ℤ) ^ n : ℤ) : ℚ) := by
  rw [pow10_exact _ (by omega) (by omega), T10_natCast]

/-- scale ≥ 0: `val_pow` is the exact power, an integer that `(int64_t)val_pow` keeps, at least 1 -/
theorem pow10_scale (e : Enc) (hv : e.Valid) (hs : 0 ≤ e.scale) :
    pow10 e.scale = T10 e.scale ∧ T10 e.scale = (((10:ℤ) ^ e.scale.toNat : ℤ) : ℚ) ∧
      dIpow e = 10 ^ e.scale.toNat ∧ 1 ≤ T10 e.scale := by
  obtain ⟨n, hn⟩ := Int.eq_ofNat_of_zero_le hs
  have hn15 : n ≤ 15 := by have := hv.s2; omega
  have hP : pow10 e.scale = T10 e.scale := pow10_exact _ hs (by omega)
  have h10 : (10:ℤ) ^ n ≤ 10 ^ 15 := pow_le_pow_right₀ (by norm_num) hn15
  have h1 : (1:ℤ) ≤ 10 ^ n := one_le_pow₀ (by norm_num)
  have hq : pow10 e.scale ≤ 10 ^ 15 := by rw [hP, hn, T10_natCast]; exact_mod_cast h10
  refine ⟨hP, ?_, ?_, ?_⟩
  · rw [hn, Int.toNat_natCast, T10_natCast]
  · unfold dIpow
    rw [if_pos (by linarith), hP, hn, T10_natCast, Int.toNat_natCast, ctrunc_int]
    exact castI64_of_range _ (by omega) (by omega)
  · rw [hn, T10_natCast]; exact_mod_cast h1

/-! ### the effective divisor

For `scale ≥ 0` the C divides by `val_pow = pow(10,scale)`; for `scale < 0` it multiplies by
`inv_pow = pow(10,-scale)` (and the encoder divides by it).  Both are "divide by `dP e`", and on the
domain `dP e` is exactly `10^scale`. -/

def dP (e : Enc) : ℚ := if e.scale < 0 then 1 / pow10 (-e.scale) else pow10 e.scale

theorem dP_eq_T (e : Enc) (hv : e.Valid) : dP e = T10 e.scale := by
  unfold dP
  split_ifs with h
  · rw [pow10_exact _ (by omega) (by have := hv.s1; omega)]
    unfold T10
    rw [zpow_neg, one_div, inv_inv]
  · exact pow10_exact _ (by omega) (by have := hv.s2; omega)

theorem dP_of_nonneg (e : Enc) (hs : 0 ≤ e.scale) : dP e = pow10 e.scale := by
  unfold dP; rw [if_neg (not_lt.mpr hs)]

theorem mul_inv_pow (e : Enc) (hs : e.scale < 0) (a : ℚ) : a * pow10 (-e.scale) = a / dP e := by
  unfold dP; rw [if_pos hs, div_div_eq_mul_div, div_one]

theorem div_inv_pow (e : Enc) (hs : e.scale < 0) (x : ℚ) : x / pow10 (-e.scale) = x * dP e := by
  unfold dP; rw [if_pos hs, mul_one_div]

theorem dFmin_eq (e : Enc) : dFmin e = fl 53 ((e.ref:ℚ) / dP e) := by
  unfold dFmin
  split_ifs with h
  · rw [mul_inv_pow e h]
  · rw [dP_of_nonneg e (not_lt.mp h)]

theorem two_pow_nbits_le (e : Enc) (hv : e.Valid) : (2:ℤ) ^ e.nbits ≤ 2 ^ 32 :=
  pow_le_pow_right₀ (by norm_num) hv.n32

theorem fl53_int_le (z : ℤ) (h : |z| ≤ 2 ^ 32 + 2 ^ 30) : fl 53 (z:ℚ) = z :=
  fl_int 53 z (lt_of_le_of_lt h (by norm_num))

theorem N_bound (e : Enc) (hv : e.Valid) (i : ℤ) (h0 : 0 ≤ i) (h1 : i < 2 ^ e.nbits - 1) :
    |((i + e.ref : ℤ) : ℚ)| ≤ 2 ^ 32 + 2 ^ 30 := by
  have hp := two_pow_nbits_le e hv
  have hr := abs_le.mp hv.r
  exact_mod_cast (abs_le.mpr ⟨by omega, by omega⟩ : |i + e.ref| ≤ 2 ^ 32 + 2 ^ 30)

/-- the largest representable scaled value `M = 2^n − 2 + ref` -/
theorem M_bound (e : Enc) (hv : e.Valid) :
    |((((2:ℤ) ^ e.nbits - 1 - 1 + e.ref : ℤ)) : ℚ)| ≤ 2 ^ 32 + 2 ^ 30 := by
  have hp := two_pow_nbits_le e hv
  have hr := abs_le.mp hv.r
  have h1 : (1:ℤ) ≤ 2 ^ e.nbits := one_le_pow₀ (by norm_num)
  exact_mod_cast (abs_le.mpr ⟨by omega, by omega⟩ :
    |(2:ℤ) ^ e.nbits - 1 - 1 + e.ref| ≤ 2 ^ 32 + 2 ^ 30)

theorem dFmax_eq (e : Enc) (hv : e.Valid) :
    dFmax e = fl 53 ((((2:ℤ) ^ e.nbits - 1 - 1 + e.ref : ℤ) : ℚ) / dP e) := by
  unfold dFmax
  simp only
  rw [fl53_int_le _ (by exact_mod_cast M_bound e hv)]
  split_ifs with h
  · rw [mul_inv_pow e h]
  · rw [dP_of_nonneg e (not_lt.mp h)]

/-- outside class 31, `bufr_descriptor_get_range` returns the bounds the encoder compares with -/
theorem getRange_eq (code : Desc) (e : Enc) (h31 : Desc.x code ≠ 31) :
    getRange code e = (dFmin e, dFmax e) := by
  unfold getRange dFmin dFmax
  simp only [h31, if_false]
  split_ifs <;> rfl

/-- `x` sits within ½ − 2^−18 of grid point `k` (in units of 10^−scale) and `k − ref` is a
non-negative 32-bit quantity (a valid raw value of the width, or one beyond it) -/
structure OnGrid (e : Enc) (x : ℚ) (k : ℤ) : Prop where
  k0 : 0 ≤ k - e.ref
  k1 : k - e.ref < 2 ^ 32
  near : |x * T10 e.scale - k| ≤ 1 / 2 - 1 / 2 ^ 18

theorem OnGrid.kbounds {e : Enc} {x : ℚ} {k : ℤ} (hv : e.Valid) (hg : OnGrid e x k) :
    -(2:ℤ) ^ 30 ≤ k ∧ k < 2 ^ 32 + 2 ^ 30 := by
  have h2 := abs_le.mp hv.r
  have := hg.k0; have := hg.k1
  constructor <;> omega

theorem OnGrid.ybound {e : Enc} {x : ℚ} {k : ℤ} (hv : e.Valid) (hg : OnGrid e x k) :
    |x * T10 e.scale| ≤ 2 ^ 32 + 2 ^ 30 + 1 := by
  obtain ⟨a, b⟩ := hg.kbounds hv
  have hk : |(k:ℚ)| ≤ 2 ^ 32 + 2 ^ 30 := by
    exact_mod_cast (abs_le.mpr ⟨by omega, by omega⟩ : |k| ≤ 2 ^ 32 + 2 ^ 30)
  linarith [abs_sub_abs_le_abs_sub (x * T10 e.scale) (k:ℚ), hg.near]

theorem OnGrid.cround_scaled {e : Enc} {x : ℚ} {k : ℤ} (hv : e.Valid) (hg : OnGrid e x k) :
    cround (fl 53 (x * T10 e.scale)) = k :=
  cround_of_rel u53_pos.le (fl53_err _) (hg.ybound hv) hg.near (by norm_num [u53])

/-- what the last two steps of branches C and Neg do with the grid point -/
theorem OnGrid.wrap_cast {e : Enc} {x : ℚ} {k : ℤ} (hv : e.Valid) (hg : OnGrid e x k) :
    wrapU64 (castI64 k - e.ref) = (k - e.ref).toNat := by
  obtain ⟨ka, kb⟩ := hg.kbounds hv
  have := hg.k1
  rw [castI64_of_range k (by omega) (by omega), wrapU64_of_range _ hg.k0 (by omega)]

/-- branch `fval ≤ 0` (`scale ≥ 0`):  `round(fval·val_pow) − reference` -/
theorem dBranchC_eq (e : Enc) (hv : e.Valid) (hs : 0 ≤ e.scale) (x : ℚ) (k : ℤ)
    (hg : OnGrid e x k) : dBranchC e x = (k - e.ref).toNat := by
  unfold dBranchC
  simp only
  rw [(pow10_scale e hv hs).1, hg.cround_scaled hv, hg.wrap_cast hv]

/-- the `scale < 0` branch:  `round(fval / inv_pow) − reference` -/
theorem dBranchNeg_eq (e : Enc) (hv : e.Valid) (hs : e.scale < 0) (x : ℚ) (k : ℤ)
    (hg : OnGrid e x k) : dBranchNeg e x = (k - e.ref).toNat := by
  unfold dBranchNeg
  simp only
  rw [div_inv_pow e hs, dP_eq_T e hv, hg.cround_scaled hv, hg.wrap_cast hv]

theorem wrapU64_cast (a : ℤ) : ((wrapU64 a : ℕ) : ℤ) = a % 2 ^ 64 := by
  unfold wrapU64
  exact Int.toNat_of_nonneg (Int.emod_nonneg _ (by norm_num))

theorem wrapU64_sub_add (a b c : ℤ) :
    wrapU64 ((wrapU64 ((wrapU64 a : ℤ) - b) : ℤ) + c) = wrapU64 (a - b + c) := by
  rw [wrapU64_cast, wrapU64_cast]
  unfold wrapU64
  rw [Int.emod_sub_emod, Int.emod_add_emod]

/-- branch `fval > 0`, `scale ≥ 0`: integer part times the integer power, plus the rounded rest -/
theorem dBranchB_eq (e : Enc) (hv : e.Valid) (hs : 0 ≤ e.scale) (x : ℚ) (k : ℤ)
    (hg : OnGrid e x k) (hx : 0 < x) : dBranchB e x = (k - e.ref).toNat := by
  obtain ⟨hP, hT, hI, hT1⟩ := pow10_scale e hv hs
  have ht0 : 0 ≤ ⌊x⌋ := Int.floor_nonneg.mpr hx.le
  have hK : ((⌊x⌋ : ℤ) : ℚ) * T10 e.scale = ((⌊x⌋ * 10 ^ e.scale.toNat : ℤ) : ℚ) := by
    rw [hT, Int.cast_mul]
  obtain ⟨htK, hKB, hR, hR0⟩ := cround_rest 53 u53_eq.le u53_le_one hx.le hT1 hK
    (le_of_abs_le (hg.ybound hv)) hg.near (by norm_num [u53])
  have hKB' : ⌊x⌋ * 10 ^ e.scale.toNat ≤ 2 ^ 32 + 2 ^ 30 + 1 := by exact_mod_cast hKB
  have hK0 : 0 ≤ ⌊x⌋ * 10 ^ e.scale.toNat := ht0.trans htK
  obtain ⟨ka, kb⟩ := hg.kbounds hv
  have hk1 := hg.k1
  unfold dBranchB
  simp only
  -- `ival = ⌊x⌋` and `ival·ipow` are exact; the rest rounds to `k − ⌊x⌋·10^s`; the two unsigned
  -- wraps merge, and the sum `⌊x⌋·10^s − ref + (k − ⌊x⌋·10^s)` is `k − ref`
  rw [hP, hI, castU64_ctrunc hx.le (by omega), natCast_toNat ht0, Int.toNat_of_nonneg ht0,
    fl_int_nonneg 53 ht0 (by omega), hR, wrapU64_sub_add, castU64_of_range _ hR0 (by omega),
    Int.toNat_of_nonneg hR0, sub_add_sub_cancel', wrapU64_of_range _ hg.k0 (by omega)]

theorem dFmin_scaled (e : Enc) (hv : e.Valid) :
    |dFmin e * T10 e.scale - e.ref| ≤ 1 / 2 ^ 20 := by
  rw [dFmin_eq, dP_eq_T e hv]
  exact (fl_div_mul_err 53 u53_eq.le (T10_pos _)
    (show |(e.ref:ℚ)| ≤ 2 ^ 30 by exact_mod_cast hv.r)).trans (by norm_num [u53])

theorem dFmax_scaled (e : Enc) (hv : e.Valid) :
    |dFmax e * T10 e.scale - (((2:ℤ) ^ e.nbits - 2 + e.ref : ℤ) : ℚ)| ≤ 1 / 2 ^ 18 := by
  rw [dFmax_eq e hv, dP_eq_T e hv, show (2:ℤ) ^ e.nbits - 2 + e.ref = 2 ^ e.nbits - 1 - 1 + e.ref by ring]
  exact (fl_div_mul_err 53 u53_eq.le (T10_pos _) (M_bound e hv)).trans (by norm_num [u53])

theorem dVal1_eq (e : Enc) (hs : 0 ≤ e.scale) (x : ℚ) : dVal1 e x = fl 53 (x - dFmin e) := by
  unfold dVal1 dFmin; rw [if_neg (not_lt.mpr hs)]

/-- branch `delta < reference`, `scale ≥ 0`: the same value recomputed from `val1 = fval − fmin` -/
theorem dBranchA_eq (e : Enc) (hv : e.Valid) (hs : 0 ≤ e.scale) (x : ℚ) (k : ℤ)
    (hg : OnGrid e x k) (hlo : ¬ x < dFmin e) : dBranchA e x = (k - e.ref).toNat := by
  obtain ⟨hP, hT, -, hT1⟩ := pow10_scale e hv hs
  have hj0 := hg.k0
  have hj1 := hg.k1
  have hjq : |(k:ℚ) - e.ref| ≤ 2 ^ 32 := by
    rw [← Int.cast_sub, abs_of_nonneg (by exact_mod_cast hj0)]; exact_mod_cast hj1.le
  have hv0 : 0 ≤ fl 53 (x - dFmin e) := fl_nonneg 53 _ (sub_nonneg.mpr (not_lt.mp hlo))
  have hvj : |fl 53 (x - dFmin e) * T10 e.scale - ((k - e.ref : ℤ) : ℚ)| ≤ 1 / 2 - 1 / 2 ^ 19 := by
    push_cast
    exact (fl_sub_mul_near 53 u53_eq.le (T10_pos _).le hg.near (dFmin_scaled e hv) hjq).trans
      (by norm_num [u53])
  have hvT : fl 53 (x - dFmin e) * T10 e.scale ≤ 2 ^ 32 + 1 := by
    have := (abs_le.mp hvj).2
    push_cast at this
    linarith [le_abs_self ((k:ℚ) - e.ref)]
  unfold dBranchA
  simp only
  rw [dVal1_eq e hs, hP]
  generalize fl 53 (x - dFmin e) = v at hv0 hvj hvT ⊢
  have ht0 : 0 ≤ ⌊v⌋ := Int.floor_nonneg.mpr hv0
  have hK : ((⌊v⌋ : ℤ) : ℚ) * T10 e.scale = ((⌊v⌋ * 10 ^ e.scale.toNat : ℤ) : ℚ) := by
    rw [hT, Int.cast_mul]
  obtain ⟨htK, hKB, hR, hR0⟩ := cround_rest 53 u53_eq.le u53_le_one hv0 hT1 hK hvT hvj
    (by norm_num [u53])
  have hKB' : ⌊v⌋ * 10 ^ e.scale.toNat ≤ 2 ^ 32 + 1 := by exact_mod_cast hKB
  have hK0 : 0 ≤ ⌊v⌋ * 10 ^ e.scale.toNat := ht0.trans htK
  -- every operation of the final `ival*val_pow + rem` is on integers below 2^53
  rw [castU64_ctrunc hv0 (by omega), natCast_toNat ht0, fl_int_nonneg 53 ht0 (by omega), hR,
    castU64_of_range _ hR0 (by omega), natCast_toNat hR0, hK, fl_int_nonneg 53 hK0 (by omega),
    fl_int_nonneg 53 hR0 (by omega), ← Int.cast_add, add_sub_cancel,
    fl_int_nonneg 53 hj0 (by omega), ctrunc_int, castU64_of_range _ hj0 (by omega)]

theorem missingIvalue_eq (n : ℕ) (h1 : 1 ≤ n) (h2 : n ≤ 63) : missingIvalue (n:ℤ) = 2 ^ n - 1 := by
  unfold missingIvalue
  rw [if_neg (by omega), if_neg (by omega), Int.toNat_natCast]

theorem missingIvalue_ge64 (n : ℤ) (h : 64 ≤ n) : missingIvalue n = 2 ^ 64 - 1 := by
  unfold missingIvalue
  rw [if_neg (by omega), if_pos (by omega)]

theorem Enc.Valid.missing {e : Enc} (hv : e.Valid) : missingIvalue (e.nbits:ℤ) = 2 ^ e.nbits - 1 :=
  missingIvalue_eq e.nbits hv.n1 (by have := hv.n32; omega)

theorem cast_allOnes (n : ℕ) : ((2 ^ n - 1 : ℕ) : ℤ) = 2 ^ n - 1 := by
  rw [Nat.cast_sub Nat.one_le_two_pow]; norm_num

theorem natCast_lt_allOnes {i n : ℕ} (h : i < 2 ^ n - 1) : (i:ℤ) < 2 ^ n - 1 := by
  rw [← cast_allOnes]; exact_mod_cast h

/-- the value computed by whichever arithmetic branch the C takes -/
def dIval (e : Enc) (x : ℚ) : ℕ :=
  if 0 ≤ e.scale then
    (if dDelta e x < e.ref then dBranchA e x else if x > 0 then dBranchB e x else dBranchC e x)
  else dBranchNeg e x

theorem cvtDvalToI64_fin (code : Desc) (e : Enc) (x : ℚ) (hn : e.nbits ≤ 32) (hx : x ≠ maxDouble) :
    cvtDvalToI64 code e (.fin x) =
      if x > dFmax e then
        (if Desc.x code = 31 ∧ wrapU64 (castI32 (ctrunc x)) = 2 ^ e.nbits - 1 then 2 ^ e.nbits - 1
         else missingIvalue e.nbits)
      else if x < dFmin e then 2 ^ e.nbits - 1
      else if dIval e x ≥ 2 ^ e.nbits - 1 then missingIvalue e.nbits else dIval e x := by
  unfold cvtDvalToI64 dIval
  rw [if_neg (by omega)]
  simp only [hx, if_false]

theorem maxDouble_ge : (2:ℚ) ^ 100 ≤ maxDouble := by
  have h1 : (1:ℚ) ≤ (((2:ℕ) ^ 53 - 1 : ℕ) : ℚ) := by norm_num
  have h2 : (2:ℚ) ^ 100 ≤ (((2:ℕ) ^ 971 : ℕ) : ℚ) := by
    simp only [Nat.cast_pow, Nat.cast_ofNat]
    exact pow_le_pow_right₀ (by norm_num) (by norm_num)
  unfold maxDouble
  calc (2:ℚ) ^ 100 = 1 * 2 ^ 100 := (one_mul _).symm
    _ ≤ _ := mul_le_mul h1 h2 (by positivity) (by positivity)

theorem ne_maxDouble_of_scaled (e : Enc) (hv : e.Valid) (x : ℚ) (h : |x * T10 e.scale| ≤ 2 ^ 34) :
    x ≠ maxDouble :=
  ne_of_abs_mul_le (T10_ge e hv) (maxDouble_ge.trans' (by norm_num)) h
    (lt_of_lt_of_le (by norm_num) (mul_le_mul_of_nonneg_right maxDouble_ge (by norm_num)))

theorem encode_rejected (code : Desc) (e : Enc) (hv : e.Valid) (x : ℚ)
    (h : x < dFmin e ∨ x > dFmax e) : cvtDvalToI64 code e (.fin x) = 2 ^ e.nbits - 1 := by
  by_cases hx : x = maxDouble
  · unfold cvtDvalToI64
    rw [if_neg (by have := hv.n32; omega)]
    simp only [hx, if_true, hv.missing]
  · rw [cvtDvalToI64_fin code e x hv.n32 hx, hv.missing]
    by_cases h1 : x > dFmax e
    · rw [if_pos h1]; split_ifs <;> rfl
    · rw [if_neg h1, if_pos (h.resolve_right h1)]

theorem dIval_eq (e : Enc) (hv : e.Valid) (x : ℚ) (k : ℤ)
    (hg : OnGrid e x k) (hlo : ¬ x < dFmin e) : dIval e x = (k - e.ref).toNat := by
  unfold dIval
  by_cases hs : 0 ≤ e.scale
  · rw [if_pos hs]
    split_ifs with h1 h2
    · exact dBranchA_eq e hv hs x k hg hlo
    · exact dBranchB_eq e hv hs x k hg h2
    · exact dBranchC_eq e hv hs x k hg
  · rw [if_neg hs]
    exact dBranchNeg_eq e hv (not_le.mp hs) x k hg

/-- a value on the grid that passes the library's range test is stored as `k − ref`, or as missing
when that is not below the all-ones pattern (the `ival >= maxval` test of both branches) -/
theorem cvtDvalToI64_onGrid_capped (code : Desc) (e : Enc) (hv : e.Valid) (x : ℚ) (k : ℤ)
    (hg : OnGrid e x k) (hlo : ¬ x < dFmin e) (hhi : ¬ x > dFmax e) :
    cvtDvalToI64 code e (.fin x) =
      if 2 ^ e.nbits - 1 ≤ (k - e.ref).toNat then 2 ^ e.nbits - 1 else (k - e.ref).toNat := by
  have hxm : x ≠ maxDouble :=
    ne_maxDouble_of_scaled e hv x (le_trans (hg.ybound hv) (by norm_num))
  rw [cvtDvalToI64_fin code e x hv.n32 hxm, if_neg hhi, if_neg hlo, dIval_eq e hv x k hg hlo,
    hv.missing]

/-- **T-Scale, encode**: a value on the grid, inside the library's own range test, encodes to
its raw value — whichever arithmetic branch the C code takes -/
theorem cvtDvalToI64_onGrid (code : Desc) (e : Enc) (hv : e.Valid) (x : ℚ) (k : ℤ)
    (hg : OnGrid e x k) (hk1 : k - e.ref < 2 ^ e.nbits - 1)
    (hlo : ¬ x < dFmin e) (hhi : ¬ x > dFmax e) :
    cvtDvalToI64 code e (.fin x) = (k - e.ref).toNat := by
  rw [cvtDvalToI64_onGrid_capped code e hv x k hg hlo hhi, if_neg]
  rw [not_le, Int.toNat_lt hg.k0, cast_allOnes]
  exact hk1

/-- a grid point **beyond** the width (`k − ref ≥ 2^n − 1`): whatever the range test said, the value
computed is at least `maxval` and the `ival >= maxval` test of both branches stores missing -/
theorem cvtDvalToI64_beyond (code : Desc) (e : Enc) (hv : e.Valid) (x : ℚ) (k : ℤ)
    (hg : OnGrid e x k) (hk1 : 2 ^ e.nbits - 1 ≤ k - e.ref) (hlo : ¬ x < dFmin e) :
    cvtDvalToI64 code e (.fin x) = 2 ^ e.nbits - 1 := by
  by_cases hhi : x > dFmax e
  · exact encode_rejected code e hv x (Or.inr hhi)
  rw [cvtDvalToI64_onGrid_capped code e hv x k hg hlo hhi, if_pos]
  rw [Int.le_toNat hg.k0, cast_allOnes]
  exact hk1

theorem cvtI64ToDval_eq (e : Enc) (hv : e.Valid) (i : ℤ) (h0 : 0 ≤ i) (h1 : i < 2 ^ e.nbits - 1) :
    cvtI64ToDval e i = fl 53 (((i + e.ref : ℤ) : ℚ) / dP e) := by
  have h2 : ¬ (i < 0 ∨ i = ((missingIvalue (e.nbits:ℤ) : ℕ) : ℤ)) := by
    rw [hv.missing, cast_allOnes]; omega
  unfold cvtI64ToDval
  simp only [h2, if_false, fl53_int_le _ (by exact_mod_cast N_bound e hv i h0 h1), ite_self]
  split_ifs with hs
  · rw [mul_inv_pow e hs]
  · rw [dP_of_nonneg e (not_lt.mp hs)]

theorem decode_onGrid (e : Enc) (hv : e.Valid) (i : ℤ) (h0 : 0 ≤ i) (h1 : i < 2 ^ e.nbits - 1) :
    OnGrid e (cvtI64ToDval e i) (i + e.ref) := by
  have hp := two_pow_nbits_le e hv
  refine ⟨by omega, by omega, ?_⟩
  rw [cvtI64ToDval_eq e hv i h0 h1, dP_eq_T e hv]
  exact (fl_div_mul_err 53 u53_eq.le (T10_pos _) (N_bound e hv i h0 h1)).trans (by norm_num [u53])

theorem scaled_lt (e : Enc) (hv : e.Valid) (A B : ℤ) (hAB : A < B)
    (hA : |(A:ℚ)| ≤ 2 ^ 32 + 2 ^ 30) (hB : |(B:ℚ)| ≤ 2 ^ 32 + 2 ^ 30) :
    fl 53 ((A:ℚ) / dP e) < fl 53 ((B:ℚ) / dP e) := by
  rw [dP_eq_T e hv]
  exact fl_div_int_lt 53 u53_eq.le (T10_pos _) hAB hA hB (by norm_num [u53])

theorem decode_ge_fmin (e : Enc) (hv : e.Valid) (i : ℤ) (h0 : 0 ≤ i) (h1 : i < 2 ^ e.nbits - 1) :
    ¬ cvtI64ToDval e i < dFmin e := by
  rw [cvtI64ToDval_eq e hv i h0 h1, not_lt, dFmin_eq]
  rcases eq_or_lt_of_le h0 with hi | hi
  · rw [← hi, zero_add]
  · exact (scaled_lt e hv e.ref (i + e.ref) (by omega)
      ((show |(e.ref:ℚ)| ≤ 2 ^ 30 by exact_mod_cast hv.r).trans (by norm_num))
      (N_bound e hv i h0 h1)).le

theorem decode_le_fmax (e : Enc) (hv : e.Valid) (i : ℤ) (h0 : 0 ≤ i) (h1 : i < 2 ^ e.nbits - 1) :
    ¬ cvtI64ToDval e i > dFmax e := by
  rw [cvtI64ToDval_eq e hv i h0 h1, gt_iff_lt, not_lt, dFmax_eq e hv]
  rcases eq_or_lt_of_le (show i + e.ref ≤ (2:ℤ) ^ e.nbits - 1 - 1 + e.ref by omega) with hi | hi
  · rw [hi]
  · exact (scaled_lt e hv _ _ hi (N_bound e hv i h0 h1) (M_bound e hv)).le

theorem cvtDvalToI64_decode (code : Desc) (e : Enc) (hv : e.Valid) (i : ℕ) (hi : i < 2 ^ e.nbits - 1) :
    cvtDvalToI64 code e (.fin (cvtI64ToDval e i)) = i := by
  have hi' := natCast_lt_allOnes hi
  have h0 : (0:ℤ) ≤ i := Int.natCast_nonneg i
  rw [cvtDvalToI64_onGrid code e hv _ _ (decode_onGrid e hv i h0 hi') (by omega)
    (decode_ge_fmin e hv i h0 hi') (decode_le_fmax e hv i h0 hi'), add_sub_cancel_right,
    Int.toNat_natCast]

theorem decode_strict_mono (e : Enc) (hv : e.Valid) (i j : ℤ) (h0 : 0 ≤ i) (hij : i < j)
    (hj : j < 2 ^ e.nbits - 1) : cvtI64ToDval e i < cvtI64ToDval e j := by
  rw [cvtI64ToDval_eq e hv i h0 (by omega), cvtI64ToDval_eq e hv j (by omega) hj]
  exact scaled_lt e hv _ _ (by omega) (N_bound e hv i h0 (by omega)) (N_bound e hv j (by omega) hj)

theorem decode_missing (e : Enc) (hv : e.Valid) : cvtI64ToDval e (2 ^ e.nbits - 1) = maxDouble := by
  unfold cvtI64ToDval
  simp only [hv.missing, cast_allOnes, or_true, if_true]

theorem decode_not_missing (e : Enc) (hv : e.Valid) (i : ℤ) (h0 : 0 ≤ i) (h1 : i < 2 ^ e.nbits - 1) :
    cvtI64ToDval e i ≠ maxDouble :=
  ne_maxDouble_of_scaled e hv _ (le_trans ((decode_onGrid e hv i h0 h1).ybound hv) (by norm_num))

theorem encode_missing (code : Desc) (e : Enc) (hv : e.Valid) (x : FP) (h : isMissingDouble x = true) :
    cvtDvalToI64 code e x = 2 ^ e.nbits - 1 := by
  unfold cvtDvalToI64
  rw [if_neg (by have := hv.n32; omega)]
  cases x with
  | nan => simp only [hv.missing]
  | inf b => simp only [hv.missing]
  | fin q =>
    have : q = maxDouble := by simpa [isMissingDouble] using h
    simp only [this, if_true, hv.missing]

theorem lt_of_scaled {e : Enc} {x y : ℚ} (h : x * T10 e.scale < y * T10 e.scale) : x < y :=
  lt_of_mul_lt_mul_right h (T10_pos _).le

theorem below_fmin (e : Enc) (hv : e.Valid) (x : ℚ)
    (h : x * T10 e.scale < (e.ref:ℚ) - 1 / 2) : x < dFmin e :=
  lt_of_scaled (by linarith [(abs_le.mp (dFmin_scaled e hv)).1])

theorem above_fmax (e : Enc) (hv : e.Valid) (x : ℚ)
    (h : x * T10 e.scale > (((2:ℤ) ^ e.nbits - 2 + e.ref : ℤ) : ℚ) + 1 / 2) : x > dFmax e :=
  lt_of_scaled (by linarith [(abs_le.mp (dFmax_scaled e hv)).2])

theorem ge_fmin_of_scaled (e : Enc) (hv : e.Valid) (x : ℚ)
    (h : (e.ref:ℚ) + 1 / 2 ≤ x * T10 e.scale) : ¬ x < dFmin e :=
  (lt_of_scaled (by linarith [(abs_le.mp (dFmin_scaled e hv)).2])).not_gt

theorem le_fmax_of_scaled (e : Enc) (hv : e.Valid) (x : ℚ)
    (h : x * T10 e.scale ≤ (((2:ℤ) ^ e.nbits - 2 + e.ref : ℤ) : ℚ) - 1 / 2) : ¬ x > dFmax e :=
  (lt_of_scaled (by linarith [(abs_le.mp (dFmax_scaled e hv)).1])).not_gt

end Bufr.Scale
