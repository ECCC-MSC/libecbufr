import BufrProofs.Scale
/-
  The single-precision pair `cvtI32ToFval` / `cvtFvalToI32`: the analysis of BufrProofs/Scale.lean at
  `p = 24`, with the multiplier `fPe e` (the float power, exact only up to 10^10) in the place of
  `T10 e.scale`.  This was the path the library took for an INT32 value with a reference before
  repository commit 8cba48a.

  Two regimes.  At scale 0 every operation is exact as long as the integers involved stay below 2^24
  (the float significand).  At any scale of the domain the round trip is proved for integers up to
  2^20 in magnitude: two float roundings of a value near `N` cost up to `|N|·2^−23`, and the
  `delta < reference` branch adds the rounding of `reference/val_pow`, so 2^20 is what the three
  branches admit together with simple constants (the code is observed to round-trip up to about 2^22
  and fails from 2^22.1).
-/
namespace Bufr.Scale
open Bufr Bufr.SF

def u24 : ℚ := 1 / 2 ^ 24

theorem u24_pos : 0 < u24 := by unfold u24; positivity

theorem u24_eq : (2:ℚ) ^ (-((24:ℕ):ℤ)) = u24 := by
  unfold u24; rw [zpow_neg, zpow_natCast]; norm_num

theorem u24_le_one : u24 ≤ 1 := by unfold u24; norm_num

theorem fl24_err (q : ℚ) : |fl 24 q - q| ≤ |q| * u24 := fl_err_le 24 u24_eq.le q

theorem fl53_err24 (q : ℚ) : |fl 53 q - q| ≤ |q| * u24 :=
  fl_err_le 53 (u53_eq.le.trans (by unfold u53 u24; norm_num)) q

theorem fl24_int (z : ℤ) (h : |z| < 2 ^ 24) : fl 24 (z:ℚ) = z := fl_int 24 z h

theorem fl53_int (z : ℤ) (h : |z| < 2 ^ 24) : fl 53 (z:ℚ) = z :=
  fl_int 53 z (lt_of_lt_of_le h (by norm_num))

theorem maxFloat_ge : (2:ℚ) ^ 100 ≤ maxFloat := by unfold maxFloat; norm_num

theorem fPow_pos (e : Enc) : 0 < fPow e := fl_pos 24 (by norm_num) (pow10_pos _)

theorem fInv_pos (e : Enc) : 0 < fInv e := fl_pos 24 (by norm_num) (pow10_pos _)

/-- `(float)pow(10,s)` is the exact power for `0 ≤ s ≤ 10` (`5^10 < 2^24`) -/
theorem fPow_nat (e : Enc) (n : ℕ) (hs : e.scale = n) (hn : n ≤ 10) :
    fPow e = (((10:ℤ) ^ n : ℤ) : ℚ) := by
  unfold fPow
  rw [hs, pow10_nat n (by omega)]
  push_cast
  exact fl_ten_pow 24 n (lt_of_le_of_lt (pow_le_pow_right₀ (by norm_num) hn) (by norm_num : (5:ℤ) ^ 10 < 2 ^ 24))

theorem fPow_zero (e : Enc) (hs : e.scale = 0) : fPow e = 1 := by
  have := fPow_nat e 0 (by simpa using hs) (by norm_num)
  simpa using this

theorem fPow_big (e : Enc) (n : ℕ) (hs : e.scale = n) (h10 : 10 ≤ n) (h22 : n ≤ 22) :
    (2:ℚ) ^ 32 ≤ fPow e := by
  unfold fPow
  rw [hs, pow10_nat n h22]
  have hq : ((10:ℚ)) ^ 10 ≤ (((10:ℤ) ^ n : ℤ) : ℚ) := by
    push_cast; exact pow_le_pow_right₀ (by norm_num) h10
  linarith [fl_half_le 24 (by norm_num) (le_trans (by norm_num) hq)]

theorem fPow_ge_one (e : Enc) (hv : e.Valid) (hs : 0 ≤ e.scale) : 1 ≤ fPow e := by
  obtain ⟨n, hn⟩ := Int.eq_ofNat_of_zero_le hs
  by_cases h10 : n ≤ 10
  · rw [fPow_nat e n hn h10]
    exact_mod_cast (one_le_pow₀ (by norm_num) : (1:ℤ) ≤ 10 ^ n)
  · linarith [fPow_big e n hn (by omega) (by have := hv.s2; omega)]

/-- for a non-negative scale the float power times the integer part of anything below 2^22 is an
integer `K` that the `int`/`uint32` product reproduces -/
theorem int_part_times_pow (e : Enc) (hv : e.Valid) (hs : 0 ≤ e.scale) (y : ℚ) (hy0 : 0 ≤ y)
    (hyP : y * fPow e ≤ 2 ^ 22) :
    ∃ K : ℤ, ((⌊y⌋ : ℤ) : ℚ) * fPow e = (K:ℚ) ∧ ((wrapU32 (⌊y⌋ * fIpow e) : ℕ) : ℤ) = K := by
  obtain ⟨n, hn⟩ := Int.eq_ofNat_of_zero_le hs
  have ht0 : 0 ≤ ⌊y⌋ := Int.floor_nonneg.mpr hy0
  by_cases h9 : n ≤ 9
  · have hP := fPow_nat e n hn (by omega)
    have h10 : (10:ℤ) ^ n ≤ 10 ^ 9 := pow_le_pow_right₀ (by norm_num) h9
    have h0 : (0:ℤ) < 10 ^ n := by positivity
    have hi : fIpow e = 10 ^ n := by
      unfold fIpow
      have hlt : fPow e < 9 * 10 ^ 18 := by
        rw [hP]
        calc (((10:ℤ) ^ n : ℤ) : ℚ) ≤ ((10 ^ 9 : ℤ) : ℚ) := by exact_mod_cast h10
          _ < 9 * 10 ^ 18 := by norm_num
      rw [if_pos hlt, hP, ctrunc_int]
      exact castI64_of_range _ (by omega) (by omega)
    have hK : ((⌊y⌋ * 10 ^ n : ℤ) : ℚ) ≤ 2 ^ 22 := by
      rw [Int.cast_mul, ← hP]
      exact (mul_le_mul_of_nonneg_right (Int.floor_le y) (fPow_pos e).le).trans hyP
    refine ⟨⌊y⌋ * 10 ^ n, by rw [hP, Int.cast_mul], ?_⟩
    unfold wrapU32
    rw [hi, Int.toNat_of_nonneg (Int.emod_nonneg _ (by norm_num))]
    exact Int.emod_eq_of_lt (mul_nonneg ht0 h0.le)
      (lt_of_le_of_lt (by exact_mod_cast hK) (by norm_num))
  · -- the power exceeds 2^32 (or is 10^10): the integer part is 0
    have hbig : (2:ℚ) ^ 32 ≤ fPow e := fPow_big e n hn (by omega) (by have := hv.s2; omega)
    have hz : ⌊y⌋ = 0 := by
      rw [Int.floor_eq_iff]
      refine ⟨by simpa using hy0, ?_⟩
      have : y * 2 ^ 32 ≤ y * fPow e := mul_le_mul_of_nonneg_left hbig hy0
      norm_num; linarith
    exact ⟨0, by rw [hz]; simp, by rw [hz]; simp [wrapU32]⟩

/-- the divisor the single-precision code effectively uses: `val_pow` for scale ≥ 0, `1/inv_pow`
for scale < 0 (decoder and bounds multiply by `inv_pow`, the encoder divides by it) -/
def fPe (e : Enc) : ℚ := if e.scale < 0 then 1 / fInv e else fPow e

theorem fPe_pos (e : Enc) : 0 < fPe e := by
  unfold fPe; split_ifs
  · exact one_div_pos.mpr (fInv_pos e)
  · exact fPow_pos e

theorem fPe_of_nonneg (e : Enc) (hs : 0 ≤ e.scale) : fPe e = fPow e := by
  unfold fPe; rw [if_neg (not_lt.mpr hs)]

theorem mul_fInv (e : Enc) (hs : e.scale < 0) (a : ℚ) : a * fInv e = a / fPe e := by
  unfold fPe; rw [if_pos hs, div_div_eq_mul_div, div_one]

theorem div_fInv (e : Enc) (hs : e.scale < 0) (x : ℚ) : x / fInv e = x * fPe e := by
  unfold fPe; rw [if_pos hs, mul_one_div]

/-- the effective divisor is not tiny: `10^−16` up to the rounding of the power -/
theorem fPe_lower (e : Enc) (hv : e.Valid) : (1:ℚ) / (2 * 10 ^ 16) ≤ fPe e := by
  unfold fPe
  split_ifs with hs
  · have hT : T10 (-e.scale) ≤ 10 ^ 16 :=
      (zpow_le_zpow_right₀ (by norm_num : (1:ℚ) ≤ 10)
        (show -e.scale ≤ 16 by have := hv.s1; omega)).trans_eq (by norm_num)
    apply one_div_le_one_div_of_le (fInv_pos e)
    unfold fInv
    rw [pow10_exact _ (by omega) (by have := hv.s1; omega)]
    linarith [fl_le_two_mul 24 (T10_pos (-e.scale)).le]
  · unfold fPow
    rw [pow10_exact _ (not_lt.mp hs) (by have := hv.s2; omega)]
    linarith [fl_half_le 24 (by norm_num) (T10_pos e.scale).le, T10_ge e hv]

/-- the decoder: `(float)(ival + reference) / val_pow` -/
theorem cvtI32ToFval_eq (e : Enc) (i : ℕ) (hn1 : 1 ≤ e.nbits)
    (hn : e.nbits ≤ 32) (hr31 : -(2:ℤ) ^ 31 < e.ref) (hi : (i:ℤ) < 2 ^ e.nbits - 1)
    (hN : |(i:ℤ) + e.ref| < 2 ^ 24) :
    cvtI32ToFval e i = fl 24 ((((i:ℤ) + e.ref : ℤ) : ℚ) / fPe e) := by
  have hp : (2:ℤ) ^ e.nbits ≤ 2 ^ 32 := pow_le_pow_right₀ (by norm_num) hn
  have hNN := abs_lt.mp hN
  have h1 : (1:ℤ) ≤ 2 ^ e.nbits := one_le_pow₀ (by norm_num)
  have hmiss : ¬ (i = missingIvalue (e.nbits:ℤ) % 2 ^ 32) := by
    rw [missingIvalue_eq e.nbits hn1 (by omega), ← @Nat.cast_inj ℤ, Int.natCast_mod, cast_allOnes,
      Int.emod_eq_of_lt (by omega) (by norm_num; omega)]
    omega
  -- the signed and the unsigned 32-bit sum are both the true sum
  have hI : e.ref < 0 ∧ i < wrapU32 (-e.ref) → wrapI32 ((i:ℤ) + e.ref) = (i:ℤ) + e.ref :=
    fun _ => wrapI32_of_range _ (by omega) (by omega)
  have hU : ¬ (e.ref < 0 ∧ i < wrapU32 (-e.ref)) →
      ((wrapU32 ((i:ℤ) + e.ref) : ℕ) : ℚ) = (((i:ℤ) + e.ref : ℤ) : ℚ) := by
    intro hb
    have hnn : 0 ≤ (i:ℤ) + e.ref := by
      by_contra hneg
      refine hb ⟨by omega, ?_⟩
      rw [wrapU32_of_range _ (by omega) (by omega)]
      omega
    rw [wrapU32_of_range _ hnn (by omega), natCast_toNat hnn]
  unfold cvtI32ToFval
  simp only [hmiss, if_false]
  rw [show fl 24 (pow10 e.scale) = fPow e from rfl, show fl 24 (pow10 (-e.scale)) = fInv e from rfl]
  split_ifs with hs hb hb
  · rw [hI hb, fl24_int _ hN, mul_fInv e hs]
  · rw [hU hb, fl24_int _ hN, mul_fInv e hs]
  · rw [hI hb, fl24_int _ hN, fPe_of_nonneg e (not_lt.mp hs)]
  · rw [hU hb, fl24_int _ hN, fPe_of_nonneg e (not_lt.mp hs)]

theorem cvtI32ToFval_exact24 (e : Enc) (i : ℕ) (hs : e.scale = 0) (hn1 : 1 ≤ e.nbits)
    (hn : e.nbits ≤ 32) (hr31 : -(2:ℤ) ^ 31 < e.ref) (hi : (i:ℤ) < 2 ^ e.nbits - 1)
    (hN : |(i:ℤ) + e.ref| < 2 ^ 24) :
    cvtI32ToFval e i = (((i:ℤ) + e.ref : ℤ) : ℚ) := by
  rw [cvtI32ToFval_eq e i hn1 hn hr31 hi hN, fPe_of_nonneg e hs.ge, fPow_zero e hs, div_one,
    fl24_int _ hN]

/-- the value computed by whichever arithmetic branch the C takes -/
def fIval (e : Enc) (x : ℚ) : ℕ :=
  if 0 ≤ e.scale then
    (if fDelta e x < e.ref then fBranchA e x else if x > 0 then fBranchB e x else fBranchC e x)
  else fBranchNeg e x

theorem cvtFvalToI32_of_fIval (code : Desc) (e : Enc) (x : ℚ) (j : ℤ) (hn : e.nbits ≤ 32)
    (hx : x ≠ maxFloat) (hlo : ¬ x < fFmin e) (hhi : ¬ x > fFmax e)
    (hj : fIval e x = j.toNat) (hj0 : 0 ≤ j) (hj1 : j < 2 ^ e.nbits - 1) :
    cvtFvalToI32 code e (.fin x) = j.toNat := by
  have hunf : cvtFvalToI32 code e (.fin x) =
      if fIval e x ≥ 2 ^ e.nbits - 1 then missingIvalue e.nbits % 2 ^ 32 else fIval e x := by
    unfold cvtFvalToI32 fIval
    rw [if_neg (by omega)]
    simp only [hx, if_false, if_neg hhi, if_neg hlo]
  rw [hunf, hj, if_neg]
  rw [ge_iff_le, not_le, Int.toNat_lt hj0, cast_allOnes]
  exact hj1

/-- hypotheses of the scale-0 single-precision encode -/
structure Exact24 (e : Enc) (v : ℤ) : Prop where
  s0 : e.scale = 0
  n1 : 1 ≤ e.nbits
  n32 : e.nbits ≤ 32
  rb : |e.ref| < 2 ^ 24
  vb : |v| < 2 ^ 24
  j0 : 0 ≤ v - e.ref
  j1 : v - e.ref < 2 ^ e.nbits - 1
  j24 : v - e.ref < 2 ^ 24

theorem fFmin_zero (e : Enc) (hs : e.scale = 0) (hr : |e.ref| < 2 ^ 24) : fFmin e = e.ref := by
  unfold fFmin
  rw [if_neg (by omega), fPow_zero e hs, fl24_int _ hr, div_one, fl24_int _ hr]

theorem fVal1_zero (e : Enc) (v : ℤ) (h : Exact24 e v) : fVal1 e (v:ℚ) = ((v - e.ref : ℤ) : ℚ) := by
  unfold fVal1
  rw [fPow_zero e h.s0, fl24_int _ h.rb, div_one, fl24_int _ h.rb, ← Int.cast_sub]
  exact fl_int_nonneg 24 h.j0 h.j24

theorem le_fFmax_exact24 (e : Enc) (v : ℤ) (h : Exact24 e v) : ¬ ((v:ℚ) > fFmax e) := by
  rw [gt_iff_lt, not_lt]
  unfold fFmax
  simp only
  rw [if_neg (by have := h.s0; omega), fPow_zero e h.s0, div_one]
  have hr := abs_lt.mp h.rb
  have hvv := abs_lt.mp h.vb
  have hvM : v ≤ 2 ^ e.nbits - 1 - 1 + e.ref := by have := h.j1; omega
  generalize (2:ℤ) ^ e.nbits - 1 - 1 + e.ref = M at hvM
  by_cases hsmall : M < 2 ^ 24
  · have hMabs : |M| < 2 ^ 24 := by rw [abs_lt]; constructor <;> omega
    rw [fl24_int M hMabs, fl24_int M hMabs]
    exact_mod_cast hvM
  · -- the sum is at least 2^24, and `fl` never crosses a power of two
    have hW : (2:ℚ) ^ (24:ℤ) ≤ (M:ℚ) := by
      rw [zpow_ofNat]; exact_mod_cast (by omega : (2:ℤ) ^ 24 ≤ M)
    have h2 := fl_ge_pow2 24 (by norm_num) 24 _ (fl_ge_pow2 24 (by norm_num) 24 _ hW)
    rw [zpow_ofNat] at h2
    exact le_trans (by exact_mod_cast hvv.2.le) h2

theorem cround_zero : cround (0:ℚ) = 0 := by simpa using cround_int 0

theorem fIval_exact24 (e : Enc) (v : ℤ) (h : Exact24 e v) : fIval e (v:ℚ) = (v - e.ref).toNat := by
  have hp : (2:ℤ) ^ e.nbits ≤ 2 ^ 32 := pow_le_pow_right₀ (by norm_num) h.n32
  have hr := abs_lt.mp h.rb
  have hvv := abs_lt.mp h.vb
  have hP := fPow_zero e h.s0
  have hj0 := h.j0
  have hj24 := h.j24
  have hz : castU32 0 = 0 := castU32_of_range 0 (le_refl _) (by norm_num)
  unfold fIval
  rw [if_pos h.s0.ge]
  split_ifs with h1 h2
  · unfold fBranchA
    simp only
    -- `val1 = v − ref` is its own integer part, the rest is 0, and `ival·1 + 0` stays below 2^24
    rw [fVal1_zero e v h, hP, ctrunc_int, castU32_of_range _ hj0 (by omega), natCast_toNat hj0,
      sub_self, fl_zero, zero_mul, fl_zero, cround_zero, hz, Nat.cast_zero, fl_zero, add_zero,
      mul_one, fl_int_nonneg 24 hj0 hj24, fl_int_nonneg 24 hj0 hj24, fl_int_nonneg 24 hj0 hj24,
      ctrunc_int, castU32_of_range _ hj0 (by omega)]
  · have hv0 : 0 ≤ v := by exact_mod_cast h2.le
    have hip : fIpow e = 1 := by
      unfold fIpow
      rw [hP, if_pos (by norm_num), show ctrunc (1:ℚ) = 1 by simpa using ctrunc_int 1]
      exact castI64_of_range 1 (by norm_num) (by norm_num)
    unfold fBranchB
    simp only
    -- `ival = v`, `ipow = 1`, the rest is 0: `v·1 − ref + 0` with no unsigned wrap
    rw [hP, hip, ctrunc_int, castU32_of_range v hv0 (by omega), natCast_toNat hv0,
      Int.toNat_of_nonneg hv0, fl24_int v h.vb, sub_self, fl_zero, zero_mul, fl_zero, cround_zero,
      hz, mul_one, Nat.cast_zero, add_zero, wrapU32_of_range v hv0 (by omega),
      Int.toNat_of_nonneg hv0, wrapU32_of_range _ hj0 (by omega), Int.toNat_of_nonneg hj0,
      wrapU32_of_range _ hj0 (by omega)]
  · unfold fBranchC
    simp only
    rw [hP, mul_one, fl24_int v h.vb, cround_int, castI64_of_range v (by omega) (by omega),
      wrapU32_of_range _ hj0 (by omega)]

theorem cvtFvalToI32_exact24 (code : Desc) (e : Enc) (v : ℤ) (h : Exact24 e v) :
    cvtFvalToI32 code e (.fin (v:ℚ)) = (v - e.ref).toNat := by
  have hvq : (v:ℚ) < 2 ^ 24 := by exact_mod_cast (abs_lt.mp h.vb).2
  refine cvtFvalToI32_of_fIval code e _ _ h.n32 ?_ ?_ (le_fFmax_exact24 e v h) (fIval_exact24 e v h) h.j0 h.j1
  · intro hEq; linarith [maxFloat_ge]
  · rw [fFmin_zero e h.s0 h.rb, not_lt]
    exact_mod_cast (by have := h.j0; omega : e.ref ≤ v)

/-- the float `x` sits within 2^−4 of grid point `k` in units of `1/fPe e`, with `|ref|` and `|k|` at
most 2^20 and a non-negative raw value `k − ref` (the single-precision counterpart of `OnGrid`) -/
structure OnGridF (e : Enc) (x : ℚ) (k : ℤ) : Prop where
  hv : e.Valid
  r20 : |e.ref| ≤ 2 ^ 20
  k20 : |k| ≤ 2 ^ 20
  k0 : 0 ≤ k - e.ref
  near : |x * fPe e - k| ≤ 1 / 16

theorem OnGridF.kq {e : Enc} {x : ℚ} {k : ℤ} (h : OnGridF e x k) : |(k:ℚ)| ≤ 2 ^ 20 := by
  exact_mod_cast h.k20

theorem OnGridF.ybound {e : Enc} {x : ℚ} {k : ℤ} (h : OnGridF e x k) :
    |x * fPe e| ≤ 2 ^ 20 + 1 / 16 := by
  linarith [abs_sub_abs_le_abs_sub (x * fPe e) (k:ℚ), h.near, h.kq]

theorem OnGridF.cround_scaled {e : Enc} {x : ℚ} {k : ℤ} (h : OnGridF e x k) :
    cround (fl 24 (x * fPe e)) = k :=
  cround_of_rel u24_pos.le (fl24_err _) h.ybound h.near (by norm_num [u24])

/-- what the last two steps of branches C and Neg do with the grid point -/
theorem OnGridF.wrap_cast {e : Enc} {x : ℚ} {k : ℤ} (h : OnGridF e x k) :
    wrapU32 (castI64 k - e.ref) = (k - e.ref).toNat := by
  have a := abs_le.mp h.r20
  have b := abs_le.mp h.k20
  rw [castI64_of_range k (by omega) (by omega), wrapU32_of_range _ h.k0 (by omega)]

theorem fBranchC_eq (e : Enc) (x : ℚ) (k : ℤ) (h : OnGridF e x k) (hs : 0 ≤ e.scale) :
    fBranchC e x = (k - e.ref).toNat := by
  unfold fBranchC
  simp only
  rw [← fPe_of_nonneg e hs, h.cround_scaled, h.wrap_cast]

theorem fBranchNeg_eq (e : Enc) (x : ℚ) (k : ℤ) (h : OnGridF e x k) (hs : e.scale < 0) :
    fBranchNeg e x = (k - e.ref).toNat := by
  unfold fBranchNeg
  simp only
  rw [div_fInv e hs, h.cround_scaled, h.wrap_cast]

theorem wrapU32_cast (a : ℤ) : ((wrapU32 a : ℕ) : ℤ) = a % 2 ^ 32 := by
  unfold wrapU32
  exact Int.toNat_of_nonneg (Int.emod_nonneg _ (by norm_num))

theorem wrapU32_sub_add (a b c : ℤ) :
    wrapU32 ((wrapU32 (a - b) : ℤ) + c) = wrapU32 (a - b + c) := by
  rw [wrapU32_cast]
  unfold wrapU32
  rw [Int.emod_add_emod]

theorem fBranchB_eq (e : Enc) (x : ℚ) (k : ℤ) (h : OnGridF e x k) (hs : 0 ≤ e.scale)
    (hx0 : 0 < x) : fBranchB e x = (k - e.ref).toNat := by
  have hxP : x * fPow e ≤ 2 ^ 20 + 1 / 16 := fPe_of_nonneg e hs ▸ le_of_abs_le h.ybound
  have hnear := h.near
  rw [fPe_of_nonneg e hs] at hnear
  obtain ⟨K, hK, hKw⟩ := int_part_times_pow e h.hv hs x hx0.le (hxP.trans (by norm_num))
  obtain ⟨htK, hKB, hR, hR0⟩ := cround_rest 24 u24_eq.le u24_le_one hx0.le
    (fPow_ge_one e h.hv hs) hK hxP hnear (by norm_num [u24])
  have ht0 : 0 ≤ ⌊x⌋ := Int.floor_nonneg.mpr hx0.le
  have hKB' : K ≤ 2 ^ 20 := by
    have : (K:ℚ) < ((2 ^ 20 + 1 : ℤ) : ℚ) := lt_of_le_of_lt hKB (by norm_num)
    exact Int.lt_add_one_iff.mp (by exact_mod_cast this)
  have a := abs_le.mp h.r20
  have b := abs_le.mp h.k20
  have hk0 := h.k0
  unfold fBranchB
  simp only
  -- `ival = ⌊x⌋` is exact, `ival·ipow` wraps to `K`, the rest rounds to `k − K`; the unsigned wraps
  -- merge, and `K − ref + (k − K)` is `k − ref`
  rw [castU32_ctrunc hx0.le (by omega), natCast_toNat ht0, Int.toNat_of_nonneg ht0,
    fl_int_nonneg 24 ht0 (by omega), hR, hKw, wrapU32_sub_add, castU32_of_range _ hR0 (by omega),
    Int.toNat_of_nonneg hR0, sub_add_sub_cancel', wrapU32_of_range _ hk0 (by omega)]

theorem fFmin_eq (e : Enc) (hr : |e.ref| ≤ 2 ^ 20) : fFmin e = fl 24 ((e.ref:ℚ) / fPe e) := by
  unfold fFmin
  rw [fl24_int _ (lt_of_le_of_lt hr (by norm_num))]
  split_ifs with hs
  · rw [mul_fInv e hs]
  · rw [fPe_of_nonneg e (not_lt.mp hs)]

theorem fFmax_eq (e : Enc) :
    fFmax e = fl 24 (fl 24 (((2:ℤ) ^ e.nbits - 1 - 1 + e.ref : ℤ) : ℚ) / fPe e) := by
  unfold fFmax
  simp only
  split_ifs with hs
  · rw [mul_fInv e hs]
  · rw [fPe_of_nonneg e (not_lt.mp hs)]

theorem fFmin_scaled (e : Enc) (hr : |e.ref| ≤ 2 ^ 20) : |fFmin e * fPe e - e.ref| ≤ 1 / 16 := by
  rw [fFmin_eq e hr]
  exact (fl_div_mul_err 24 u24_eq.le (fPe_pos e)
    (show |(e.ref:ℚ)| ≤ 2 ^ 20 by exact_mod_cast hr)).trans (by norm_num [u24])

theorem fVal1_eq (e : Enc) (hs : 0 ≤ e.scale) (x : ℚ) : fVal1 e x = fl 24 (x - fFmin e) := by
  unfold fVal1 fFmin; rw [if_neg (not_lt.mpr hs)]

theorem fBranchA_eq (e : Enc) (x : ℚ) (k : ℤ) (h : OnGridF e x k) (hs : 0 ≤ e.scale)
    (hlo : ¬ x < fFmin e) : fBranchA e x = (k - e.ref).toNat := by
  have a := abs_le.mp h.r20
  have b := abs_le.mp h.k20
  have hj0 := h.k0
  have hjq : |(k:ℚ) - e.ref| ≤ 2 ^ 21 := by
    rw [← Int.cast_sub, abs_of_nonneg (by exact_mod_cast hj0)]
    exact_mod_cast (by omega : k - e.ref ≤ 2 ^ 21)
  have hv0 : 0 ≤ fl 24 (x - fFmin e) := fl_nonneg 24 _ (sub_nonneg.mpr (not_lt.mp hlo))
  have hvj : |fl 24 (x - fFmin e) * fPe e - ((k - e.ref : ℤ) : ℚ)| ≤ 1 / 4 + 1 / 2 ^ 20 := by
    push_cast
    exact (fl_sub_mul_near 24 u24_eq.le (fPe_pos e).le h.near (fFmin_scaled e h.r20) hjq).trans
      (by norm_num [u24])
  have hvP : fl 24 (x - fFmin e) * fPe e ≤ 2 ^ 21 + 1 := by
    have := (abs_le.mp hvj).2
    push_cast at this
    linarith [le_abs_self ((k:ℚ) - e.ref)]
  unfold fBranchA
  simp only
  rw [fVal1_eq e hs]
  rw [fPe_of_nonneg e hs] at hvj hvP
  generalize fl 24 (x - fFmin e) = v at hv0 hvj hvP ⊢
  have ht0 : 0 ≤ ⌊v⌋ := Int.floor_nonneg.mpr hv0
  obtain ⟨K, hK, -⟩ := int_part_times_pow e h.hv hs v hv0 (hvP.trans (by norm_num))
  -- the rest is computed in double precision
  obtain ⟨htK, hKB, hR, hR0⟩ := cround_rest 53 u53_eq.le u53_le_one hv0
    (fPow_ge_one e h.hv hs) hK hvP hvj (by norm_num [u53])
  have hKB' : K ≤ 2 ^ 21 + 1 := by exact_mod_cast hKB
  have hK0 : 0 ≤ K := ht0.trans htK
  -- every operation of the final `ival*val_pow + rem` is on integers below 2^24
  rw [castU32_ctrunc hv0 (by omega), natCast_toNat ht0, hR, castU32_of_range _ hR0 (by omega),
    natCast_toNat hR0, fl_int_nonneg 24 ht0 (by omega), hK, fl_int_nonneg 24 hK0 (by omega),
    fl_int_nonneg 24 hR0 (by omega), ← Int.cast_add, add_sub_cancel,
    fl_int_nonneg 24 hj0 (by omega), ctrunc_int, castU32_of_range _ hj0 (by omega)]

theorem fIval_eq (e : Enc) (x : ℚ) (k : ℤ) (h : OnGridF e x k) (hlo : ¬ x < fFmin e) :
    fIval e x = (k - e.ref).toNat := by
  unfold fIval
  by_cases hs : 0 ≤ e.scale
  · rw [if_pos hs]
    split_ifs with h1 h2
    · exact fBranchA_eq e x k h hs hlo
    · exact fBranchB_eq e x k h hs h2
    · exact fBranchC_eq e x k h hs
  · rw [if_neg hs]
    exact fBranchNeg_eq e x k h (not_le.mp hs)

theorem OnGridF.ne_maxFloat {e : Enc} {x : ℚ} {k : ℤ} (h : OnGridF e x k) : x ≠ maxFloat :=
  ne_of_abs_mul_le (fPe_lower e h.hv) (maxFloat_ge.trans' (by norm_num)) h.ybound
    (lt_of_lt_of_le (by norm_num) (mul_le_mul_of_nonneg_right maxFloat_ge (by norm_num)))

/-- **T-Scale, single precision, encode**: a float near a grid point, inside the library's own range
test, encodes to its raw value — whichever arithmetic branch the C code takes -/
theorem cvtFvalToI32_onGrid (code : Desc) (e : Enc) (x : ℚ) (k : ℤ) (h : OnGridF e x k)
    (hk1 : k - e.ref < 2 ^ e.nbits - 1) (hlo : ¬ x < fFmin e) (hhi : ¬ x > fFmax e) :
    cvtFvalToI32 code e (.fin x) = (k - e.ref).toNat :=
  cvtFvalToI32_of_fIval code e x _ h.hv.n32 h.ne_maxFloat hlo hhi (fIval_eq e x k h hlo) h.k0 hk1

/-- hypotheses of the general-scale single-precision round trip -/
structure Small20 (e : Enc) (i : ℤ) : Prop where
  hv : e.Valid
  r20 : |e.ref| ≤ 2 ^ 20
  i0 : 0 ≤ i
  i1 : i < 2 ^ e.nbits - 1
  N20 : |i + e.ref| ≤ 2 ^ 20

/-- the decoded float -/
def fx (e : Enc) (i : ℤ) : ℚ := fl 24 (((i + e.ref : ℤ) : ℚ) / fPe e)

theorem Small20.Nq {e : Enc} {i : ℤ} (h : Small20 e i) : |((i + e.ref : ℤ) : ℚ)| ≤ 2 ^ 20 := by
  exact_mod_cast h.N20

theorem fx_onGrid (e : Enc) (i : ℤ) (h : Small20 e i) : OnGridF e (fx e i) (i + e.ref) :=
  ⟨h.hv, h.r20, h.N20, by have := h.i0; omega,
    (fl_div_mul_err 24 u24_eq.le (fPe_pos e) h.Nq).trans (by norm_num [u24])⟩

theorem fx_ge_fmin (e : Enc) (i : ℤ) (h : Small20 e i) : ¬ fx e i < fFmin e := by
  rw [fFmin_eq e h.r20, not_lt]
  unfold fx
  rcases eq_or_lt_of_le h.i0 with hi | hi
  · rw [← hi, zero_add]
  · exact (fl_div_int_lt 24 u24_eq.le (fPe_pos e) (by omega)
      (show |(e.ref:ℚ)| ≤ 2 ^ 20 by exact_mod_cast h.r20) h.Nq (by norm_num [u24])).le

theorem fx_le_fmax (e : Enc) (i : ℤ) (h : Small20 e i) : ¬ fx e i > fFmax e := by
  rw [gt_iff_lt, not_lt, fFmax_eq]
  unfold fx
  have hp := two_pow_nbits_le e h.hv
  have hr := abs_le.mp h.r20
  have hNb := abs_le.mp h.N20
  have hNM : i + e.ref ≤ 2 ^ e.nbits - 1 - 1 + e.ref := by have := h.i1; omega
  generalize (2:ℤ) ^ e.nbits - 1 - 1 + e.ref = M at hNM
  rcases eq_or_lt_of_le hNM with hi | hi
  · rw [← hi, fl24_int _ (lt_of_le_of_lt h.N20 (by norm_num))]
  by_cases hsmall : M ≤ 2 ^ 23
  · have hMq : |(M:ℚ)| ≤ 2 ^ 23 := by
      exact_mod_cast (abs_le.mpr ⟨by omega, hsmall⟩ : |M| ≤ 2 ^ 23)
    rw [fl24_int M (by rw [abs_lt]; constructor <;> omega)]
    exact (fl_div_int_lt 24 u24_eq.le (fPe_pos e) hi h.Nq hMq (by norm_num [u24])).le
  · -- the sum is above 2^23, `fl` does not cross that power of two, and `i + ref ≤ 2^20` is far below
    have hW : (2:ℚ) ^ (23:ℤ) ≤ (M:ℚ) := by
      rw [zpow_ofNat]; exact_mod_cast (by omega : (2:ℤ) ^ 23 ≤ M)
    have h1 := fl_ge_pow2 24 (by norm_num) 23 _ hW
    rw [zpow_ofNat] at h1
    have hN := h.Nq
    refine (fl_div_lt 24 u24_eq.le (fPe_pos e) ?_).le
    rw [abs_of_nonneg (by linarith : (0:ℚ) ≤ fl 24 (M:ℚ))]
    unfold u24
    linarith [le_abs_self (((i + e.ref : ℤ)) : ℚ)]

/-- **T-Scale, single precision**: decode then encode through the float pair returns the raw value
when |ref| ≤ 2^20 and |raw + ref| ≤ 2^20, at every scale of the domain and in every branch -/
theorem cvtFvalToI32_small (code : Desc) (e : Enc) (i : ℤ) (h : Small20 e i) :
    cvtFvalToI32 code e (.fin (fx e i)) = i.toNat := by
  have := cvtFvalToI32_onGrid code e _ _ (fx_onGrid e i h) (by have := h.i1; omega)
    (fx_ge_fmin e i h) (fx_le_fmax e i h)
  rwa [add_sub_cancel_right] at this

end Bufr.Scale
