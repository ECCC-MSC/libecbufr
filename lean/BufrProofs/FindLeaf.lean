import BufrProofs.SoftFloat
import BufrModel.Find
import BufrSpec.Find
/-
  BufrProofs.FindLeaf — the value tests of the search (bufr_compare_value, bufr_between_values as the
  search uses them) against the property's "equal within half the element precision", "inclusive range"
  and "equal text up to padding" (C17, leaves), under the decidable side conditions `cmpOkB`, `rngOkB`.

  The C compares reals in double arithmetic: `fabs(f1 - f2) <= 0.5 / pow(10, scale)`.  The model mirrors
  that bit for bit; here it is shown equal to the exact comparison `|a - b| ≤ 10^-scale / 2` whenever the
  exact distance is not within one part in 2^40 of the tolerance (`NoBand`), for every scale ≥ -40 (`close_iff`;
  the bound keeps the tolerance, 10^40 at most, far below `DBL_MAX`).
  A missing value takes part as `DBL_MAX`, which is outside the band of every number up to 2^200.
  Integers against integers, ranges and text are exact.
-/
namespace Bufr.Find
open Bufr Bufr.SF Bufr.Spec.Find

theorem rabs_eq (q : ℚ) : rabs q = |q| := abs_eq_ite q

theorem absQ_eq (q : ℚ) : absQ q = |q| := rabs_eq q

/-- `y` approximates `x` and `e` approximates `h`, to relative errors `u` and `v`.  Unless `x` is within relative
`w` of `h`, comparing the approximations decides `x ≤ h`. -/
theorem approx_le_iff {x y h e u v w : ℚ} (hh : 0 < h) (hu : 0 ≤ 1 - u) (hu' : 0 ≤ 1 + u) (hw : 0 < w)
    (hy1 : x * (1 - u) ≤ y) (hy2 : y ≤ x * (1 + u)) (he1 : h * (1 - v) ≤ e) (he2 : e ≤ h * (1 + v))
    (hin : (1 - w) * (1 + u) ≤ 1 - v) (hout : 1 + v < (1 + w) * (1 - u))
    (hband : x ≤ h * (1 - w) ∨ h * (1 + w) ≤ x) : y ≤ e ↔ x ≤ h := by
  rcases hband with hx | hx
  · refine iff_of_true ?_ (hx.trans (by linarith [mul_pos hh hw]))
    calc y ≤ x * (1 + u) := hy2
      _ ≤ h * (1 - w) * (1 + u) := mul_le_mul_of_nonneg_right hx hu'
      _ = h * ((1 - w) * (1 + u)) := mul_assoc _ _ _
      _ ≤ h * (1 - v) := mul_le_mul_of_nonneg_left hin hh.le
      _ ≤ e := he1
  · refine iff_of_false (not_le.mpr ?_) (not_le.mpr (lt_of_lt_of_le (by linarith [mul_pos hh hw]) hx))
    calc e ≤ h * (1 + v) := he2
      _ < h * ((1 + w) * (1 - u)) := mul_lt_mul_of_pos_left hout hh
      _ = h * (1 + w) * (1 - u) := (mul_assoc _ _ _).symm
      _ ≤ x * (1 - u) := mul_le_mul_of_nonneg_right hx hu
      _ ≤ y := hy1

/-- the unit roundoff of a double, in the form `fl_rel` and `fl_abs_rel` state it -/
theorem two_pow_neg53 : (2:ℚ) ^ (-((53:ℕ):ℤ)) = 1 / 2^53 := by
  rw [zpow_neg, zpow_natCast]; simp

/-- a quotient `h = c / t` computed as `e = fl (c / fl t)`: two roundings of relative error `u` stay within
relative `v` -/
theorem rounded_quot_near {t D h q e u v : ℚ} (ht : 0 < t) (hu : 0 ≤ u) (hu1 : u < 1) (hq0 : 0 ≤ q) (hh0 : 0 ≤ h)
    (hD1 : t * (1 - u) ≤ D) (hD2 : D ≤ t * (1 + u)) (hqh : q * D = h * t)
    (he1 : q * (1 - u) ≤ e) (he2 : e ≤ q * (1 + u))
    (hv1 : 1 + u ≤ (1 + v) * (1 - u)) (hv2 : (1 - v) * (1 + u) ≤ 1 - u) :
    h * (1 - v) ≤ e ∧ e ≤ h * (1 + v) := by
  have hm : 0 < 1 - u := sub_pos.mpr hu1
  have hp : 0 < 1 + u := by linarith
  have h1 : q * (1 - u) ≤ h := by
    refine le_of_mul_le_mul_right ?_ ht
    calc q * (1 - u) * t = q * (t * (1 - u)) := by ring
      _ ≤ q * D := mul_le_mul_of_nonneg_left hD1 hq0
      _ = h * t := hqh
  have h2 : h ≤ q * (1 + u) := by
    refine le_of_mul_le_mul_right ?_ ht
    calc h * t = q * D := hqh.symm
      _ ≤ q * (t * (1 + u)) := mul_le_mul_of_nonneg_left hD2 hq0
      _ = q * (1 + u) * t := by ring
  constructor
  · refine le_of_mul_le_mul_right ?_ hp
    calc h * (1 - v) * (1 + u) = h * ((1 - v) * (1 + u)) := mul_assoc _ _ _
      _ ≤ h * (1 - u) := mul_le_mul_of_nonneg_left hv2 hh0
      _ ≤ q * (1 + u) * (1 - u) := mul_le_mul_of_nonneg_right h2 hm.le
      _ = q * (1 - u) * (1 + u) := by ring
      _ ≤ e * (1 + u) := mul_le_mul_of_nonneg_right he1 hp.le
  · refine le_of_mul_le_mul_right ?_ hm
    calc e * (1 - u) ≤ q * (1 + u) * (1 - u) := mul_le_mul_of_nonneg_right he2 hm.le
      _ = q * (1 - u) * (1 + u) := by ring
      _ ≤ h * (1 + u) := mul_le_mul_of_nonneg_right h1 hp.le
      _ ≤ h * ((1 + v) * (1 - u)) := mul_le_mul_of_nonneg_left hv1 hh0
      _ = h * (1 + v) * (1 - u) := (mul_assoc _ _ _).symm

theorem halfPrecision_eq (s : Int) : halfPrecision s = 1 / 2 / (10:ℚ) ^ s := by
  unfold halfPrecision
  rw [pow10r_eq, zpow_neg]
  exact (div_eq_mul_inv _ _).symm

theorem halfPrecision_pos (s : Int) : 0 < halfPrecision s := by
  rw [halfPrecision_eq]; exact div_pos (by norm_num) (zpow_pos (by norm_num) s)

theorem halfPrecision_le (s : Int) (n : ℕ) (h : -(n:ℤ) ≤ s) : halfPrecision s * 2 ≤ 10 ^ n := by
  unfold halfPrecision
  rw [pow10r_eq]
  have : (10:ℚ) ^ (-s) ≤ 10 ^ (n:ℤ) := zpow_le_zpow_right₀ (by norm_num) (by omega)
  rw [zpow_natCast] at this
  linarith

/-- `0.5 / pow(10, scale)` as the C computes it, with two roundings of relative error 2^-53 each, against the exact
half precision (2^-50 is a round bound on what the two add up to): for every scale -/
theorem eps_near (s : Int) :
    halfPrecision s * (1 - 1 / 2^50) ≤ epsilonOf s ∧ epsilonOf s ≤ halfPrecision s * (1 + 1 / 2^50) := by
  have ht : (0:ℚ) < 10 ^ s := zpow_pos (by norm_num) s
  have hu : (0:ℚ) ≤ 2 ^ (-((53:ℕ):ℤ)) := zpow_nonneg (by norm_num) _
  have hu1 : (2:ℚ) ^ (-((53:ℕ):ℤ)) < 1 := by rw [two_pow_neg53]; norm_num
  -- the divisor: 1, or `pow(10, scale)` rounded
  obtain ⟨D, hD, hD1, hD2⟩ : ∃ D, (if s = 0 then 1 else Scale.pow10 s) = D ∧
      (10:ℚ) ^ s * (1 - 2 ^ (-((53:ℕ):ℤ))) ≤ D ∧ D ≤ (10:ℚ) ^ s * (1 + 2 ^ (-((53:ℕ):ℤ))) := by
    split_ifs with h0
    · rw [h0, zpow_zero]
      exact ⟨1, rfl, by linarith, by linarith⟩
    · exact ⟨_, rfl, pow10r_eq s ▸ fl_rel 53 (pow10r_eq s ▸ ht)⟩
  have hDpos : 0 < D := lt_of_lt_of_le (mul_pos ht (sub_pos.mpr hu1)) hD1
  have hq : 0 < 1 / 2 / D := div_pos (by norm_num) hDpos
  obtain ⟨he1, he2⟩ := fl_rel 53 hq
  unfold epsilonOf
  rw [halfPrecision_eq, hD]
  refine rounded_quot_near ht hu hu1 hq.le (div_pos (by norm_num) ht).le hD1 hD2
    (by rw [div_mul_cancel₀ _ hDpos.ne', div_mul_cancel₀ _ ht.ne']) he1 he2 ?_ ?_
  · rw [two_pow_neg53]; norm_num
  · rw [two_pow_neg53]; norm_num

/-- the exact distance is not within one part in 2^40 of the tolerance: a round figure above the errors the band
has to cover, 2^-53 from the subtraction and 2^-50 from the tolerance (`approx_le_iff`) -/
def NoBand (s : Int) (a b : ℚ) : Prop :=
  |a - b| ≤ halfPrecision s * (1 - 1 / 2^40) ∨ halfPrecision s * (1 + 1 / 2^40) ≤ |a - b|

instance (s : Int) (a b : ℚ) : Decidable (NoBand s a b) := by unfold NoBand; infer_instance

-- `maxDouble` is written with the exponent 971, which `norm_num` does not evaluate below this threshold
set_option exponentiation.threshold 2000 in
/-- 2^251 exceeds 10^40, twice the largest tolerance (`half_lt_max`); 2^200 bounds the admitted numbers (`numAdm`) -/
theorem maxDouble_big : (2:ℚ)^251 + 2^200 ≤ maxDouble := by
  unfold maxDouble; norm_num

theorem fpSub_fin (p : ℕ) (mx a b : ℚ) :
    fpSub p mx (.fin a) (.fin b) =
      if |fl p (a - b)| > mx then FP.inf (decide (fl p (a - b) < 0)) else FP.fin (fl p (a - b)) := by
  simp only [fpSub, rabs_eq]

theorem fpAbsLe_fin (q e : ℚ) : fpAbsLe (.fin q) e = decide (|q| ≤ e) := by simp only [fpAbsLe, rabs_eq]

theorem fpAbsLe_inf (n : Bool) (e : ℚ) : fpAbsLe (.inf n) e = false := rfl

/-- a tolerance that is itself representable makes the overflow of the subtraction irrelevant -/
theorem fpAbsLe_sub (p : ℕ) {mx e : ℚ} (h : e ≤ mx) (a b : ℚ) :
    fpAbsLe (fpSub p mx (.fin a) (.fin b)) e = decide (|fl p (a - b)| ≤ e) := by
  rw [fpSub_fin]
  split_ifs with hov
  · rw [fpAbsLe_inf]
    exact (decide_eq_false (not_le.mpr (lt_of_le_of_lt h hov))).symm
  · exact fpAbsLe_fin _ _

theorem half_lt_max (s : Int) (h1 : -40 ≤ s) : halfPrecision s * 2 + 2^200 < maxDouble := by
  have h2 : (10:ℚ) ^ 40 < 2^251 := by norm_num
  linarith [maxDouble_big, halfPrecision_le s 40 h1]

theorem close_iff (s : Int) (h1 : -40 ≤ s) (A B : ℚ) (hband : NoBand s A B) :
    fpAbsLe (fpSub 53 maxDouble (.fin A) (.fin B)) (epsilonOf s) = decide (|A - B| ≤ halfPrecision s) := by
  obtain ⟨e1, e2⟩ := eps_near s
  have hpos := halfPrecision_pos s
  have hmax : epsilonOf s ≤ maxDouble := by
    have h3 : halfPrecision s * (1 + 1 / 2^50) ≤ halfPrecision s * 2 := mul_le_mul_of_nonneg_left (by norm_num) hpos.le
    have h4 := half_lt_max s h1
    have h5 : (0:ℚ) ≤ 2^200 := by positivity
    generalize (2:ℚ)^200 = M at h4 h5    -- `linarith` needs the numeral only as an atom
    linarith
  obtain ⟨f1, f2⟩ := two_pow_neg53 ▸ fl_abs_rel 53 (A - B)
  rw [fpAbsLe_sub 53 hmax]
  exact decide_eq_decide.mpr (approx_le_iff hpos (by norm_num) (by norm_num) (by norm_num) f1 f2 e1 e2 (by norm_num)
    (by norm_num) hband)

theorem maxDouble_far (s : Int) (h1 : -40 ≤ s) (b : ℚ) (hb : |b| ≤ 2^200) :
    halfPrecision s * (1 + 1 / 2^40) ≤ |maxDouble - b| ∧ ¬ |maxDouble - b| ≤ halfPrecision s := by
  have hpos := halfPrecision_pos s
  have h3 : |maxDouble| - |b| ≤ |maxDouble - b| := abs_sub_abs_le_abs_sub _ _
  have h4 := le_abs_self maxDouble
  have h5 : halfPrecision s * (1 + 1 / 2^40) ≤ halfPrecision s * 2 := mul_le_mul_of_nonneg_left (by norm_num) hpos.le
  have h6 := half_lt_max s h1
  generalize (2:ℚ)^200 = M at hb h6
  exact ⟨by linarith, not_le.mpr (by linarith)⟩

/-- numbers the comparison lemmas cover: integers as the C holds them (INT64 values exactly representable in a
double), finite reals up to 2^200 or the missing sentinel; a NaN/Inf FLT32 is a missing value for the library,
a NaN/Inf FLT64 is excluded.  2^53 is where INT64 → double stops being exact (`fl_int`); INT32 → double is exact
in the model, so that bound only has to stay below 2^200; 2^200 keeps `DBL_MAX`, which stands for a missing value,
outside the band of every admitted number at every scale ≥ -40 (`half_lt_max`) -/
def numAdm : Val → Bool
  | .i32 v => decide (|v| ≤ 2^63)
  | .i64 v => decide (|v| < 2^53)
  | .f32 (.fin q) => decide (q = maxFloat ∨ |q| ≤ 2^200)
  | .f32 _ => true
  | .f64 (.fin q) => decide (q = maxDouble ∨ |q| ≤ 2^200)
  | _ => false

/-- an admitted number is either missing, and then the C compares `DBL_MAX` in its place, or a number of modest
size that `bufr_value_get_double` returns unchanged -/
theorem numAdm_cases {v : Val} (h : numAdm v = true) :
    isStrVal v = false ∧
    ((num v = none ∧ v.getDouble = .fin maxDouble ∧ v.isMissing = true) ∨
     ∃ a, num v = some a ∧ |a| ≤ 2^200 ∧ v.getDouble = .fin a ∧ v.isMissing = false) := by
  cases v with
  | none => cases h
  | str _ => cases h
  | i32 a =>
    refine ⟨rfl, ?_⟩
    by_cases ha : a = -1
    · exact .inl ⟨if_pos ha, if_pos ha, decide_eq_true ha⟩
    · have hb : |(a:ℚ)| ≤ 2^63 := by exact_mod_cast of_decide_eq_true h
      exact .inr ⟨a, if_neg ha, hb.trans (by norm_num), if_neg ha, decide_eq_false ha⟩
  | i64 a =>
    refine ⟨rfl, ?_⟩
    by_cases ha : a = -1
    · exact .inl ⟨if_pos ha, if_pos ha, decide_eq_true ha⟩
    · have hlt : |a| < 2^53 := of_decide_eq_true h
      have hb : |(a:ℚ)| < 2^53 := by exact_mod_cast hlt
      exact .inr ⟨a, if_neg ha, hb.le.trans (by norm_num),
        (if_neg ha).trans (congrArg FP.fin (fl_int 53 a hlt)), decide_eq_false ha⟩
  | f32 x =>
    refine ⟨rfl, ?_⟩
    cases x with
    | nan => exact .inl ⟨rfl, rfl, rfl⟩
    | inf n => exact .inl ⟨rfl, rfl, rfl⟩
    | fin q =>
      by_cases hq : q = maxFloat
      · exact .inl ⟨if_pos hq, if_pos (decide_eq_true hq), decide_eq_true hq⟩
      · exact .inr ⟨q, if_neg hq, (of_decide_eq_true h).resolve_left hq, if_neg (mt of_decide_eq_true hq),
          decide_eq_false hq⟩
  | f64 x =>
    refine ⟨rfl, ?_⟩
    cases x with
    | nan => cases h
    | inf n => cases h
    | fin q =>
      by_cases hq : q = maxDouble
      · exact .inl ⟨if_pos hq, congrArg FP.fin hq, decide_eq_true hq⟩
      · exact .inr ⟨q, if_neg hq, (of_decide_eq_true h).resolve_left hq, rfl, decide_eq_false hq⟩

/-- equality of what two values stand for: both missing, or numbers within half the precision -/
def numEq (s : Int) : Option ℚ → Option ℚ → Bool
  | none, none => true
  | some a, some b => decide (absQ (a - b) ≤ halfPrecision s)
  | _, _ => false

theorem doubleCmp_eq_numEq (s : Int) (x v : Val) (h1 : -40 ≤ s) (hx : numAdm x = true) (hv : numAdm v = true)
    (hb : ∀ a b, num x = some a → num v = some b → NoBand s a b) :
    fpAbsLe (fpSub 53 maxDouble x.getDouble v.getDouble) (epsilonOf s) =
      numEq s (num x) (num v) := by
  rcases (numAdm_cases hx).2 with ⟨nx, dx, _⟩ | ⟨a, nx, ba, dx, _⟩
  all_goals rcases (numAdm_cases hv).2 with ⟨nv, dv, _⟩ | ⟨b, nv, bb, dv, _⟩
  all_goals rw [nx, nv, dx, dv]
  · -- missing against missing: the distance is 0
    have h0 : 0 ≤ halfPrecision s * (1 - 1 / 2^40) := mul_nonneg (halfPrecision_pos s).le (by norm_num)
    rw [close_iff s h1 _ _ (.inl (by rw [sub_self, abs_zero]; exact h0)), sub_self, abs_zero]
    exact decide_eq_true (halfPrecision_pos s).le
  · obtain ⟨f1, f2⟩ := maxDouble_far s h1 b bb
    rw [close_iff s h1 _ _ (.inr f1)]
    exact decide_eq_false f2
  · obtain ⟨f1, f2⟩ := maxDouble_far s h1 a ba
    rw [abs_sub_comm] at f1 f2
    rw [close_iff s h1 _ _ (.inr f1)]
    exact decide_eq_false f2
  · rw [close_iff s h1 _ _ (hb a b nx nv)]
    show _ = decide (absQ (a - b) ≤ halfPrecision s)
    rw [absQ_eq]

theorem ite_beq (c : Prop) [Decidable c] {a b : Int} (h : b ≠ a) : ((if c then a else b) == a) = decide c := by
  by_cases hc : c
  · rw [if_pos hc, decide_eq_true hc]; exact beq_self_eq_true a
  · rw [if_neg hc, decide_eq_false hc]; exact beq_false_of_ne h

theorem valEq_num {x v : Val} (hx : isStrVal x = false) (hv : isStrVal v = false) (s : Int) :
    valEq s x v =
      numEq s (num x) (num v) := by
  cases x with
  | str _ => cases hx
  | _ =>
    cases v with
    | str _ => cases hv
    | _ => rfl

theorem intEq_eq_numEq (s : Int) (h1 : 0 ≤ s) (a b : Int) :
    decide (a = b) =
      numEq s (if a = -1 then none else some (a:ℚ)) (if b = -1 then none else some (b:ℚ)) := by
  by_cases ha : a = -1 <;> by_cases hb : b = -1
  · rw [if_pos ha, if_pos hb, ha, hb]
    rfl
  · rw [if_pos ha, if_neg hb, ha]
    exact decide_eq_false (Ne.symm hb)
  · rw [if_neg ha, if_pos hb, hb]
    exact decide_eq_false ha
  · rw [if_neg ha, if_neg hb]
    show _ = decide (absQ ((a:ℚ) - b) ≤ halfPrecision s)
    rw [absQ_eq]
    refine decide_eq_decide.mpr ⟨fun h => ?_, fun h => ?_⟩
    · rw [h, sub_self, abs_zero]
      exact (halfPrecision_pos s).le
    · -- two different integers are at least 1 apart, the half precision is at most 1/2
      by_contra hab
      have h3 : (1:ℤ) ≤ |a - b| := Int.one_le_abs (sub_ne_zero.mpr hab)
      have h4 : (1:ℚ) ≤ |(a:ℚ) - b| := by exact_mod_cast h3
      have hh : halfPrecision s * 2 ≤ 10 ^ 0 := halfPrecision_le s 0 h1
      rw [pow_zero] at hh
      linarith

def noBandB (s : Int) (a b : ℚ) : Bool :=
  decide (absQ (a - b) ≤ halfPrecision s * (1 - 1 / 2^40)) || decide (halfPrecision s * (1 + 1 / 2^40) ≤ absQ (a - b))

theorem noBandB_iff {s : Int} {a b : ℚ} : noBandB s a b = true ↔ NoBand s a b := by
  simp only [noBandB, NoBand, Bool.or_eq_true, decide_eq_true_eq, absQ_eq]

/-- the value `x` of an element of scale `s` against the key value `v`, both numbers: scale within -40 … 40,
integers as the C holds them, reals finite and below 2^200 (or missing), the element not a 32-bit IEEE value, the
key value not INT64, integer elements compared with integer keys have scale ≥ 0, and a real comparison is not
within one part in 2^40 of the tolerance -/
def cmpNumOkB (s : Int) (x v : Val) : Bool :=
  decide (-40 ≤ s) && decide (s ≤ 40) && numAdm x && numAdm v &&
  (match x with | .f32 _ => false | _ => true) && (match v with | .i64 _ => false | _ => true) &&
  (if isIntVal x && isIntVal v then decide (0 ≤ s)
   else match num x, num v with
     | some a, some b => noBandB s a b
     | _, _ => true)

theorem compareValue_f64 (X : FP) (v : Val) (e : ℚ) :
    compareValue (.f64 X) v e = if fpAbsLe (fpSub 53 maxDouble (Val.f64 X).getDouble v.getDouble) e then 0 else -1 := rfl

theorem compareValue_int_flt {x v : Val} (hx : isIntVal x = true) (hv : isFltVal v = true) (e : ℚ) :
    compareValue x v e = if fpAbsLe (fpSub 53 maxDouble x.getDouble v.getDouble) e then 0 else -1 := by
  unfold compareValue
  rw [hx, hv]
  rfl

theorem compareValue_i32_i32 (a b : Int) (e : ℚ) : compareValue (.i32 a) (.i32 b) e = if a = b then 0 else -1 := rfl

theorem compareValue_i64_i32 (a b : Int) (e : ℚ) : compareValue (.i64 a) (.i32 b) e = if a = b then 0 else -1 := rfl

theorem compareValue_num (s : Int) (x v : Val) (h : cmpNumOkB s x v = true) :
    (compareValue x v (epsilonOf s) == 0) = valEq s x v := by
  simp only [cmpNumOkB, Bool.and_eq_true, decide_eq_true_eq] at h
  obtain ⟨⟨⟨⟨⟨⟨h1, h2⟩, hx⟩, hv⟩, hxf⟩, hvl⟩, hc⟩ := h
  rw [valEq_num (numAdm_cases hx).1 (numAdm_cases hv).1]
  -- the comparison in double arithmetic, taken unless both are integers
  have real : ¬ (isIntVal x = true ∧ isIntVal v = true) →
      ((if fpAbsLe (fpSub 53 maxDouble x.getDouble v.getDouble) (epsilonOf s) then (0:Int) else -1) == 0) =
        numEq s (num x) (num v) := by
    intro hi
    rw [if_neg hi] at hc
    rw [ite_beq _ (by decide), Bool.decide_eq_true]
    exact doubleCmp_eq_numEq s x v h1 hx hv fun a b ha hb => noBandB_iff.mp (by rw [ha, hb] at hc; exact hc)
  cases x with
  | f64 X =>
    rw [compareValue_f64]
    exact real fun h => Bool.noConfusion h.1
  | i32 a =>
    cases v with
    | i32 b =>
      rw [compareValue_i32_i32, ite_beq _ (by decide)]
      rw [if_pos ⟨rfl, rfl⟩] at hc
      exact intEq_eq_numEq s (of_decide_eq_true hc) a b
    | f32 y | f64 y =>
      rw [compareValue_int_flt rfl rfl]
      exact real fun h => Bool.noConfusion h.2
    | i64 _ => cases hvl
    | _ => cases hv
  | i64 a =>
    cases v with
    | i32 b =>
      rw [compareValue_i64_i32, ite_beq _ (by decide)]
      rw [if_pos ⟨rfl, rfl⟩] at hc
      exact intEq_eq_numEq s (of_decide_eq_true hc) a b
    | f32 y | f64 y =>
      rw [compareValue_int_flt rfl rfl]
      exact real fun h => Bool.noConfusion h.2
    | i64 _ => cases hvl
    | _ => cases hv
  | f32 _ => cases hxf
  | _ => cases hx

/-- a range key `[lo, hi]` against the value `x`: numbers, the bounds not missing and not INT64, `x` not a
32-bit IEEE value -/
def rngOkB (lo x hi : Val) : Bool :=
  numAdm lo && numAdm hi && numAdm x && (num lo).isSome && (num hi).isSome &&
  (match lo with | .i64 _ => false | _ => true) && (match hi with | .i64 _ => false | _ => true) &&
  (match x with | .f32 _ => false | _ => true)

theorem betweenValues_num {lo x hi : Val} (hlo : isStrVal lo = false) (hx : isStrVal x = false)
    (hhi : isStrVal hi = false) (hm : x.isMissing = false) :
    betweenValues lo x hi =
      if isIntVal x && !isFltVal lo && !isFltVal hi then
        (if lo.getInt64 ≤ x.getInt64 ∧ x.getInt64 ≤ hi.getInt64 then 1 else 0)
      else if fpLe lo.getDouble x.getDouble && fpLe x.getDouble hi.getDouble then 1 else 0 := by
  unfold betweenValues
  rw [hlo, hx, hhi, hm]
  cases x with
  | str _ => cases hx
  | none => cases hm
  | _ => rfl

theorem isIntVal_of_not_flt {v : Val} (h : numAdm v = true) (hf : isFltVal v = false) : isIntVal v = true := by
  cases v with
  | i32 _ | i64 _ => rfl
  | f32 _ | f64 _ => cases hf
  | _ => cases h

theorem getInt64_num {x : Val} (hx : isIntVal x = true) {v : ℚ} (hv : num x = some v) : ((x.getInt64 : ℤ) : ℚ) = v := by
  cases x with
  | i32 a | i64 a =>
    change (if a = -1 then none else some (a:ℚ)) = some v at hv
    split_ifs at hv
    exact Option.some.inj hv
  | _ => cases hx

theorem betweenValues_eq_inRange (lo x hi : Val) (h : rngOkB lo x hi = true) : (betweenValues lo x hi == 1) = inRange lo x hi := by
  simp only [rngOkB, Bool.and_eq_true] at h
  obtain ⟨⟨⟨⟨⟨⟨⟨hlo, hhi⟩, hx⟩, slo⟩, shi⟩, _⟩, _⟩, _⟩ := h
  obtain ⟨tlo, ⟨na, _⟩ | ⟨a, na, _, da, _⟩⟩ := numAdm_cases hlo
  · rw [na] at slo; cases slo
  obtain ⟨thi, ⟨nb, _⟩ | ⟨b, nb, _, db, _⟩⟩ := numAdm_cases hhi
  · rw [nb] at shi; cases shi
  unfold inRange
  rw [na, nb]
  obtain ⟨tx, ⟨nv, _, mv⟩ | ⟨v, nv, _, dv, mv⟩⟩ := numAdm_cases hx
  · -- a missing value is in no range
    unfold betweenValues
    rw [tlo, tx, thi, mv, nv]
    rfl
  rw [nv, betweenValues_num tlo tx thi mv]
  show _ = decide (a ≤ v ∧ v ≤ b)
  by_cases hint : (isIntVal x && !isFltVal lo && !isFltVal hi) = true
  · rw [if_pos hint, ite_beq _ (by decide)]
    simp only [Bool.and_eq_true, Bool.not_eq_true'] at hint
    refine decide_eq_decide.mpr ?_
    rw [← getInt64_num (isIntVal_of_not_flt hlo hint.1.2) na, ← getInt64_num hint.1.1 nv,
      ← getInt64_num (isIntVal_of_not_flt hhi hint.2) nb, Int.cast_le, Int.cast_le]
  · rw [if_neg hint, ite_beq _ (by decide), Bool.decide_eq_true, da, dv, db]
    exact (Bool.decide_and _ _).symm

/-- no NUL byte: the string is its own C string -/
def noNul (l : List Nat) : Bool := l.all (· ≠ 0)

theorem noNul_cons {c : Nat} {l : List Nat} (h : noNul (c :: l) = true) : c ≠ 0 ∧ noNul l = true :=
  (Bool.and_eq_true_iff.mp h).imp of_decide_eq_true id

theorem strncmpEq_take : ∀ (n : Nat) (a b : List Nat), n ≤ a.length → n ≤ b.length → noNul a = true →
    strncmpEq n a b = (a.take n == b.take n) := by
  intro n
  induction n with
  | zero => intro a b _ _ _; rfl
  | succ n ih =>
    intro a b ha hb na
    cases a with
    | nil => exact absurd ha (Nat.not_succ_le_zero n)
    | cons c1 a' =>
      cases b with
      | nil => exact absurd hb (Nat.not_succ_le_zero n)
      | cons c2 b' =>
        obtain ⟨h1, na'⟩ := noNul_cons na
        show (if c1 ≠ c2 then false else if c1 = 0 then true else strncmpEq n a' b') =
          (c1 :: a'.take n == c2 :: b'.take n)
        rw [List.cons_beq_cons]
        by_cases hc : c1 = c2
        · rw [if_neg (not_not.mpr hc), if_neg h1, ih a' b' (Nat.le_of_succ_le_succ ha) (Nat.le_of_succ_le_succ hb) na',
            beq_iff_eq.mpr hc, Bool.true_and]
        · rw [if_pos hc, beq_false_of_ne hc, Bool.false_and]

theorem restIsPadding_all : ∀ (l : List Nat), noNul l = true → restIsPadding l = l.all (fun c => decide (c = 32)) := by
  intro l
  induction l with
  | nil => intro _; rfl
  | cons c cs ih =>
    intro h
    obtain ⟨h1, h'⟩ := noNul_cons h
    show (if c = 0 then true else if c ≠ 32 then false else restIsPadding cs) = (decide (c = 32) && cs.all _)
    rw [if_neg h1, ih h']
    by_cases hc : c = 32
    · rw [if_neg (not_not.mpr hc), decide_eq_true hc, Bool.true_and]
    · rw [if_pos hc, decide_eq_false hc, Bool.false_and]

theorem dropWhile_blanks (k : Nat) (r : List Nat) :
    List.dropWhile (fun x => decide (x = 32)) (List.replicate k 32 ++ r) = List.dropWhile (fun x => decide (x = 32)) r := by
  induction k with
  | zero => simp
  | succ k ih => simp [List.replicate_succ, ih]

theorem trim_append_blanks (l : List Nat) (k : Nat) : trimBlanks (l ++ List.replicate k 32) = trimBlanks l := by
  unfold trimBlanks
  rw [List.reverse_append, List.reverse_replicate, dropWhile_blanks]

theorem allBlank_replicate (l : List Nat) (h : l.all (fun c => decide (c = 32)) = true) : l = List.replicate l.length 32 :=
  List.eq_replicate_iff.mpr ⟨rfl, fun b hb => of_decide_eq_true (List.all_eq_true.mp h b hb)⟩

theorem trim_decomp (l : List Nat) : ∃ k, l = trimBlanks l ++ List.replicate k 32 := by
  have h := congrArg List.reverse (List.takeWhile_append_dropWhile (p := fun x => decide (x = 32)) (l := l.reverse))
  rw [List.reverse_append, List.reverse_reverse, allBlank_replicate _ List.all_takeWhile, List.reverse_replicate] at h
  exact ⟨_, h.symm⟩

theorem prefix_pad (a b : List Nat) (hle : a.length ≤ b.length) :
    ((a == b.take a.length) && (b.drop a.length).all (fun c => decide (c = 32))) = (trimBlanks a == trimBlanks b) := by
  rw [Bool.eq_iff_iff]
  simp only [Bool.and_eq_true, beq_iff_eq]
  constructor
  · rintro ⟨h1, h2⟩
    have hb : b = a ++ List.replicate (b.drop a.length).length 32 := by
      have := List.take_append_drop a.length b
      rw [← h1, allBlank_replicate _ h2] at this
      exact this.symm
    rw [hb, trim_append_blanks]
  · intro h
    obtain ⟨m1, ha⟩ := trim_decomp a
    obtain ⟨n1, hb⟩ := trim_decomp b
    rw [← h] at hb
    have hlen : m1 ≤ n1 := by
      have l1 := congrArg List.length ha
      have l2 := congrArg List.length hb
      simp only [List.length_append, List.length_replicate] at l1 l2
      omega
    have hb2 : b = a ++ List.replicate (n1 - m1) 32 := by
      rw [hb]
      conv_rhs => rw [ha]
      rw [List.append_assoc, List.replicate_append_replicate]
      congr 2
      omega
    constructor
    · rw [hb2, List.take_left' rfl]
    · rw [hb2, List.drop_left' rfl]
      simp

theorem noNul_drop {l : List Nat} (h : noNul l = true) (n : Nat) : noNul (l.drop n) = true :=
  List.all_eq_true.mpr fun x hx => List.all_eq_true.mp h x (List.mem_of_mem_drop hx)

theorem compareStr_eq (a b : List Nat) (ha : noNul a = true) (hb : noNul b = true) :
    compareStrEq a b = (trimBlanks a == trimBlanks b) := by
  unfold compareStrEq
  simp only []
  rw [strncmpEq_take _ a b (Nat.min_le_left _ _) (Nat.min_le_right _ _) ha]
  by_cases hgt : a.length > b.length
  · rw [if_pos hgt, Nat.min_eq_right (Nat.le_of_lt hgt), List.take_of_length_le (Nat.le_refl _),
      restIsPadding_all _ (noNul_drop ha _), BEq.comm (a := trimBlanks a), ← prefix_pad b a (Nat.le_of_lt hgt),
      BEq.comm (a := b)]
    cases a.take b.length == b <;> rfl
  · rw [if_neg hgt, Nat.min_eq_left (Nat.le_of_not_gt hgt), List.take_of_length_le (Nat.le_refl _),
      restIsPadding_all _ (noNul_drop hb _), ← prefix_pad a b (Nat.le_of_not_gt hgt)]
    cases a == b.take a.length <;> rfl

/-- a descriptor's value `x` (scale `s`) against a key value `v`: both text without NUL bytes, or both numbers
(`cmpNumOkB`) -/
def cmpOkB (s : Int) (x v : Val) : Bool :=
  match x, v with
  | .str a, .str b => noNul a && noNul b
  | .str _, _ => false
  | _, .str _ => false
  | _, _ => cmpNumOkB s x v

theorem compareValue_eq_valEq (s : Int) (x v : Val) (h : cmpOkB s x v = true) :
    (compareValue x v (epsilonOf s) == 0) = valEq s x v := by
  cases x with
  | str a =>
    cases v with
    | str b =>
      have hab : noNul a = true ∧ noNul b = true := Bool.and_eq_true_iff.mp h
      show ((if compareStrEq a b then (0:Int) else 1) == 0) = (trimBlanks a == trimBlanks b)
      rw [ite_beq _ (by decide), Bool.decide_eq_true]
      exact compareStr_eq a b hab.1 hab.2
    | _ => cases h
  | _ =>
    cases v with
    | str b => cases h
    | _ => exact compareValue_num s _ _ h

end Bufr.Find
