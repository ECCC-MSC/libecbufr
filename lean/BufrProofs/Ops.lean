import BufrModel.Ops
import BufrSpec.Ops
/-
  BufrProofs.Ops — the `BufrDDOp` state machine simulates the FM 94 Table C register file
  (template-build time: no new reference value is known yet).
-/
namespace Bufr
open Bufr.Spec

def kindOf : DType → Kind
  | .numeric => .num | .ccitt => .ccitt | .codetable => .code | .flagtable => .flag
  | .ieee => .ieee | .chngRef => .newRef | .operator => .op
  | _ => .none

/-- the Section 4 layout the model gives a node -/
def layoutOf (n : Node) : Layout :=
  { desc := n.desc, kind := kindOf n.enc.type, width := n.enc.nbits, scale := n.enc.scale,
    ref := n.enc.ref, af := n.enc.afNbits }

/-- `layoutOf n` is `n.enc.layout n.desc` (by `rfl`): the layout of an encoding not yet stored in its node -/
def Enc.layout (e : Enc) (d : Nat) : Layout :=
  { desc := d, kind := kindOf e.type, width := e.nbits, scale := e.scale, ref := e.ref, af := e.afNbits }

def listSum (l : List Nat) : Nat := l.foldl (· + ·) 0

theorem afTotal_eq_listSum (st : OpState) : afTotal st = listSum st.af := rfl

theorem listSum_eq_sum (l : List Nat) : listSum l = l.sum := List.sum_eq_foldl.symm

theorem listSum_concat (l : List Nat) (a : Nat) : listSum (l ++ [a]) = listSum l + a := by
  simp [listSum_eq_sum]

/-- simulation relation between the library's operator state and the regulation's registers -/
structure Sim (ddo : DDO) (st : OpState) : Prop where
  strict : ddo.enforce = .strict
  width : ddo.addNbits = if st.s7 > 0 then (((10 * st.s7 + 2) / 3 : Nat) : Int) else st.dw
  scale : ddo.multiplyScale = if st.s7 > 0 then (st.s7 : Int) else st.ds
  ref7 : ddo.changeRefValue = st.s7
  excl : st.s7 > 0 → st.dw = 0 ∧ st.ds = 0
  newRef : ddo.changeRefValOp = st.newRefBits
  noOverride : ddo.overrides = [] ∧ st.newRefs = []
  af : ddo.afList = st.af
  afSum : ddo.addAfNbits = (listSum st.af : Nat)
  localW : ddo.localNbitsFollows = st.localW
  ieee : ddo.useIeee = st.ieee
  ccitt : ddo.redefineCcitt = st.ccitt

/-- `Sim` determines every field of the library's state but the flag bits (2 22–2 37, 2 41 have no
counterpart in the registers): this is the state it determines -/
def ddoOf (flags : Nat) (st : OpState) : DDO :=
  { flags := flags
    addNbits := if st.s7 > 0 then (((10 * st.s7 + 2) / 3 : Nat) : Int) else st.dw
    multiplyScale := if st.s7 > 0 then (st.s7 : Int) else st.ds
    changeRefValOp := st.newRefBits
    addAfNbits := (listSum st.af : Nat)
    localNbitsFollows := st.localW
    useIeee := st.ieee
    changeRefValue := st.s7
    redefineCcitt := st.ccitt
    overrides := []
    afList := st.af
    enforce := .strict }

theorem Sim.eq_ddoOf {ddo : DDO} {st : OpState} (hS : Sim ddo st) : ddo = ddoOf ddo.flags st := by
  cases ddo
  simp only [ddoOf, DDO.mk.injEq]
  exact ⟨trivial, hS.width, hS.scale, hS.newRef, hS.afSum, hS.localW, hS.ieee, hS.ref7, hS.ccitt,
    hS.noOverride.1, hS.af, hS.strict⟩

theorem sim_init : Sim { enforce := .strict } {} :=
  ⟨rfl, rfl, rfl, rfl, fun h => absurd h (by decide), rfl, ⟨rfl, rfl⟩, rfl, rfl, rfl, rfl, rfl⟩

/-- what `bufr_apply_tables2node` uses of a resolved operator -/
def Resolved.used (r : Resolved) : DDO × Option (DType × Int) × Bool := (r.ddo, r.enc, decide (r.rc < 0))

/-- v3, v4 and v5 pass the return code of the version below through this test -/
theorem rcWrap_used (r : Resolved) (x : Nat) :
    (if r.rc < 0 then { r with rc := -1 } else { r with rc := x }).used = r.used := by
  unfold Resolved.used
  split
  · next h => simp [h]
  · next h => simp [h]

theorem used_badVersionTail (r : Resolved) (x : Nat) :
    (badVersionTail r false x).used = (r.ddo, r.enc, false) := by
  simp [badVersionTail, Resolved.used]

theorem resolveV3_eq_V2 (ddo : DDO) (x y v : Nat) (hx : x ≤ 9) :
    (resolveV3 ddo x y v).used = (resolveV2 ddo x y).used := by
  unfold resolveV3
  -- every operator version 3 adds has `x > 9`
  split <;> try omega
  exact rcWrap_used _ x

theorem resolveV4_eq_V2 (ddo : DDO) (x y v : Nat) (hx : x ≤ 6) :
    (resolveV4 ddo x y v).used = (resolveV2 ddo x y).used := by
  unfold resolveV4
  -- every operator version 4 adds or redefines has `x > 6`
  split <;> try omega
  exact (rcWrap_used _ x).trans (resolveV3_eq_V2 ddo x y v (by omega))

theorem resolveV5_eq_V4 (ddo : DDO) (x y v : Nat) (hx : x ≠ 9) :
    (resolveV5 ddo x y v).used = (resolveV4 ddo x y v).used := by
  unfold resolveV5
  split
  · exact absurd rfl hx
  · exact rcWrap_used _ x

theorem resolveV2_sim (f : Nat) (st : OpState) (d x y : Nat) (h1 : 1 ≤ x) (h6 : x ≤ 6)
    (h12 : x = 1 ∨ x = 2 → st.s7 = 0) :
    (resolveV2 (ddoOf f st) x y).used =
      (ddoOf f (stepOp st d x y).1, if x = 5 then some (.ccitt, (y : Int) * 8) else none, false) := by
  have hx : x = 1 ∨ x = 2 ∨ x = 3 ∨ x = 4 ∨ x = 5 ∨ x = 6 := by omega
  rcases hx with rfl | rfl | rfl | rfl | rfl | rfl
  · simp [resolveV2, stepOp, ddoOf, Resolved.used, h12]
  · simp [resolveV2, stepOp, ddoOf, Resolved.used, h12]
  · by_cases h255 : y = 255
    · simp [resolveV2, stepOp, ddoOf, Resolved.used, h255]
    · by_cases h0 : y = 0
      · simp [resolveV2, stepOp, ddoOf, Resolved.used, h0]
      · simp [resolveV2, stepOp, ddoOf, Resolved.used, h0, h255]
  · by_cases hy : y > 0
    · simp [resolveV2, stepOp, ddoOf, Resolved.used, hy, listSum_concat]
    · rcases List.eq_nil_or_concat st.af with h | ⟨l, a, h⟩
      · simp [resolveV2, stepOp, ddoOf, Resolved.used, hy, h]
      · simp [resolveV2, stepOp, ddoOf, Resolved.used, hy, h, listSum_concat]
  · simp [resolveV2, stepOp, ddoOf, Resolved.used]
  · simp [resolveV2, stepOp, ddoOf, Resolved.used]

theorem resolveV4_sim (f : Nat) (st : OpState) (d x y v : Nat) (hx : x = 7 ∨ x = 8) (hv : 4 ≤ v) :
    (resolveV4 (ddoOf f st) x y v).used = (ddoOf f (stepOp st d x y).1, none, false) := by
  have hbad : decide (v < 4) = false := by simpa using hv
  rcases hx with rfl | rfl
  · by_cases hy : y = 0
    · simp [resolveV4, hbad, used_badVersionTail, stepOp, ddoOf, hy]
    · have : y > 0 := by omega
      simp [resolveV4, hbad, used_badVersionTail, stepOp, ddoOf, hy, this]
  · simp [resolveV4, hbad, used_badVersionTail, stepOp, ddoOf]

theorem resolveV5_sim (f : Nat) (st : OpState) (d y : Nat) :
    (resolveV5 (ddoOf f st) 9 y 5).used = (ddoOf f (stepOp st d 9 y).1, none, false) := by
  by_cases h : y = 32 ∨ y = 64
  · simp [resolveV5, used_badVersionTail, stepOp, ddoOf, h]
  · by_cases h0 : y = 0
    · simp [resolveV5, used_badVersionTail, stepOp, ddoOf, h0]
    · simp [resolveV5, used_badVersionTail, stepOp, ddoOf, h, h0]

theorem definedIn_cases (ed x : Nat) (hed : 2 ≤ ed ∧ ed ≤ 5) (h : definedIn ed x = true) :
    (1 ≤ x ∧ x ≤ 6) ∨ ((x = 7 ∨ x = 8) ∧ 4 ≤ ed) ∨ (x = 9 ∧ ed = 5) := by
  unfold definedIn at h
  split at h
  · left; assumption
  · split at h
    · right; left; simp at h; exact ⟨by assumption, h⟩
    · split at h
      · right; right; simp at h; omega
      · simp at h

theorem resolveTableC_sim (f : Nat) (st : OpState) (d x y ed : Nat) (hed : 2 ≤ ed ∧ ed ≤ 5)
    (hdef : definedIn ed x = true) (h12 : x = 1 ∨ x = 2 → st.s7 = 0) :
    (resolveTableC (ddoOf f st) x y ed).used =
      (ddoOf f (stepOp st d x y).1, if x = 5 then some (.ccitt, (y : Int) * 8) else none, false) := by
  have hs : (ddoOf f st).enforce = .strict := rfl
  unfold resolveTableC
  rw [if_pos hs]
  rcases definedIn_cases ed x hed hdef with hlow | ⟨h78, hed4⟩ | ⟨rfl, rfl⟩
  · rw [← resolveV2_sim f st d x y hlow.1 hlow.2 h12]
    split
    · rw [resolveV5_eq_V4 _ _ _ _ (by omega), resolveV4_eq_V2 _ _ _ _ hlow.2]
    · exact resolveV4_eq_V2 _ _ _ _ hlow.2
    · exact resolveV3_eq_V2 _ _ _ _ (by omega)
    · rfl
  · rw [if_neg (by omega), ← resolveV4_sim f st d x y ed h78 hed4]
    have he : ed = 4 ∨ ed = 5 := by omega
    rcases he with rfl | rfl
    · rfl
    · exact resolveV5_eq_V4 _ _ _ _ (by omega)
  · exact resolveV5_sim f st d y

/-- what the walk over the nodes carries about the registers: no new reference value is installed at
template-build time, and `inScope` keeps the associated fields within 64 bits -/
def RegsOK (st : OpState) : Prop := st.newRefs = [] ∧ listSum st.af ≤ 64

/-- the nodes Table C is applied to in the build of a subset: element or operator descriptors
whose CLASS31 flag (if any) is justified, operators not inside a zero-count replication -/
def NodeOK (n : Node) : Prop :=
  (n.flags.class31 = true → Desc.x n.desc = 31) ∧ (Desc.f n.desc = 2 → n.flags.skipped = false)

/-- what `layout_sim` observes of the result of one node: state, layout, error flag -/
def outOf (r : DDO × Node × Bool) : DDO × Layout × Bool := (r.1, layoutOf r.2.1, r.2.2)

theorem applyTail_out (ddo : DDO) (n : Node) (e : Enc) (err : Bool) (hn : NodeOK n) :
    outOf (applyTail ddo n e err) =
      ((applyWidth ddo n (decide (Desc.x n.desc = 31)) (applyAF ddo (decide (Desc.x n.desc = 31)) e)).2.1,
       (applyWidth ddo n (decide (Desc.x n.desc = 31)) (applyAF ddo (decide (Desc.x n.desc = 31)) e)).1.layout n.desc,
       err || (applyWidth ddo n (decide (Desc.x n.desc = 31)) (applyAF ddo (decide (Desc.x n.desc = 31)) e)).2.2) := by
  have hcl : (n.flags.class31 || decide (Desc.x n.desc = 31)) = decide (Desc.x n.desc = 31) := by
    cases hc : n.flags.class31
    · rfl
    · simp [hn.1 hc]
  unfold applyTail
  rw [hcl]
  rfl

/-- the per-operator conditions of `inScope` -/
def opOK (edition : Nat) (st : OpState) (x y : Nat) : Prop :=
  definedIn edition x = true ∧ ((x = 1 ∨ x = 2) → st.s7 = 0) ∧ (x = 5 → st.af = [] ∧ st.ccitt = 0) ∧
  ((x = 4 ∧ y > 0) → afTotal st + y ≤ 64)

theorem regsOK_stepOp {st : OpState} (d x y : Nat) (h : RegsOK st) (h4 : x = 4 ∧ y > 0 → afTotal st + y ≤ 64) :
    RegsOK (stepOp st d x y).1 := by
  unfold stepOp
  -- only 2 03 touches `newRefs` and only 2 04 touches `af`
  split <;> try exact h
  · split
    · exact h
    · split
      · exact ⟨rfl, h.2⟩
      · exact h
  · split
    · next hy => exact ⟨h.1, by rw [listSum_concat]; exact h4 ⟨rfl, hy⟩⟩
    · refine ⟨h.1, ?_⟩
      have hb := h.2
      rcases List.eq_nil_or_concat st.af with h0 | ⟨l, a, h0⟩
      · rw [h0] at hb ⊢; exact hb
      · rw [h0, List.concat_eq_append] at hb ⊢
        rw [listSum_concat] at hb
        rw [List.dropLast_concat]
        exact Nat.le_trans (Nat.le_add_right _ _) hb

theorem stepOp_layout_ne5 (st : OpState) (d x y : Nat) (h5 : x ≠ 5) :
    (stepOp st d x y).2 = { desc := d, kind := .op } := by
  unfold stepOp
  split <;> (try rfl)
  · split <;> (try split) <;> rfl
  · split <;> rfl
  · exact absurd rfl h5

theorem opnode_sim (T : Tables) (ed f : Nat) (st : OpState) (n : Node) (hf : Desc.f n.desc = 2) (hn : NodeOK n)
    (hed : 2 ≤ ed ∧ ed ≤ 5) (hok : opOK ed st (Desc.x n.desc) (Desc.y n.desc)) :
    outOf (applyTables2node T ed (ddoOf f st) n) =
      (ddoOf f (stepOp st n.desc (Desc.x n.desc) (Desc.y n.desc)).1,
       (stepOp st n.desc (Desc.x n.desc) (Desc.y n.desc)).2, false) := by
  have hu := resolveTableC_sim f st n.desc (Desc.x n.desc) (Desc.y n.desc) ed hed hok.1 hok.2.1
  have hd : (resolveTableC (ddoOf f st) (Desc.x n.desc) (Desc.y n.desc) ed).ddo = _ := congrArg (·.1) hu
  have henc : (resolveTableC (ddoOf f st) (Desc.x n.desc) (Desc.y n.desc) ed).enc = _ := congrArg (·.2.1) hu
  have hrc : decide ((resolveTableC (ddoOf f st) (Desc.x n.desc) (Desc.y n.desc) ed).rc < 0) = false :=
    congrArg (·.2.2) hu
  have hbase : baseEnc T (ddoOf f st) n.desc = none := by unfold baseEnc; simp [hf]
  have hre : reassign n.desc none = { type := .operator, scale := 0, ref := 0, nbits := 0, afNbits := 0 } := by
    simp [reassign, hf]
  unfold applyTables2node
  rw [if_pos ⟨hf, by simp [hn.2 hf]⟩, hbase, hre]
  dsimp only
  rw [hrc, henc, hd, applyTail_out _ _ _ _ hn]
  by_cases h5 : Desc.x n.desc = 5
  · obtain ⟨haf, hcc⟩ := hok.2.2.1 h5
    simp [h5, stepOp, applyAF, afApplies, applyWidth, ddoOf, haf, hcc, listSum, Enc.layout, kindOf, Int.mul_comm]
  · rw [if_neg h5, stepOp_layout_ne5 st n.desc _ _ h5]
    simp [applyAF, afApplies, applyWidth, Enc.layout, kindOf]

/-- the per-element conditions of `inScope` -/
def elemOK (T : Tables) (st : OpState) (d : Nat) : Prop :=
  match T.fetchB d with
  | none => st.localW > 0 ∧ isLocal d = true ∧ Desc.x d ≠ 31 ∧ st.ieee = 0 ∧ st.newRefBits = 0 ∧ st.s7 = 0 ∧ st.ds = 0
  | some e => (st.localW > 0 → e.typ = .numeric ∧ Desc.x d ≠ 31) ∧ (Desc.x d = 31 → e.typ ≠ .ccitt) ∧
      (-2147483648 ≤ e.ref * 10 ^ st.s7 ∧ e.ref * 10 ^ st.s7 ≤ 2147483647)

theorem isLocal_eq' (d : Nat) : isLocalDescriptor d = isLocal d := rfl

theorem applyNumeric_spec (ddo : DDO) (n : Node) (sc rf nb : Int) (A : Nat)
    (hfit : -2147483648 ≤ rf * 10 ^ ddo.changeRefValue ∧ rf * 10 ^ ddo.changeRefValue ≤ 2147483647) :
    applyNumeric ddo n { type := .numeric, scale := sc, ref := rf, nbits := nb, afNbits := A } =
      if ddo.useIeee > 0 then
        ({ type := .ieee, scale := sc, ref := rf, nbits := ddo.useIeee, afNbits := A }, ddo, false)
      else if ddo.changeRefValOp > 0 then
        ({ type := .chngRef, ref := 0, scale := 0, afNbits := 0, nbits := ddo.changeRefValOp }, ddo, false)
      else
        ({ type := .numeric, scale := sc + ddo.multiplyScale, ref := rf * 10 ^ ddo.changeRefValue,
           nbits := if ddo.localNbitsFollows > 0 then (if isLocal n.desc then (ddo.localNbitsFollows : Int) else nb)
                    else nb + ddo.addNbits,
           afNbits := A },
         (if ddo.localNbitsFollows > 0 then { ddo with localNbitsFollows := 0 } else ddo), false) := by
  unfold applyNumeric
  have hmax : INT_MAX = 2147483647 := rfl
  have hmin : INT_MIN = -2147483648 := rfl
  have hno : ¬ (rf * 10 ^ ddo.changeRefValue > INT_MAX ∨ rf * 10 ^ ddo.changeRefValue < INT_MIN) := by
    rw [hmax, hmin]; omega
  by_cases h1 : ddo.useIeee > 0
  · simp [h1]
  · by_cases h2 : ddo.changeRefValOp > 0
    · simp [h1, h2]
    · -- the C tests each of these before it touches the field; the closed form does not
      by_cases h3 : ddo.localNbitsFollows > 0
      all_goals by_cases hl : isLocal n.desc = true
      all_goals by_cases ha : ddo.addNbits = 0
      all_goals by_cases hm : ddo.multiplyScale = 0
      all_goals by_cases h7 : ddo.changeRefValue = 0
      all_goals simp [h1, h2, h3, hl, ha, hm, h7, hno, isLocal_eq']

theorem applyAF_data (f : Nat) (st : OpState) (e : Enc) (hb : listSum st.af ≤ 64)
    (hd : e.type = .ccitt ∨ e.type = .numeric ∨ e.type = .codetable ∨ e.type = .flagtable) (h0 : e.afNbits = 0) :
    applyAF (ddoOf f st) false e = { e with afNbits := afTotal st } := by
  have hA : (ddoOf f st).addAfNbits = (afTotal st : Nat) := rfl
  have hb' : afTotal st ≤ 64 := afTotal_eq_listSum st ▸ hb
  have ht : (e.type = .ccitt || e.type = .numeric || e.type = .codetable || e.type = .flagtable) = true := by
    rcases hd with h | h | h | h <;> simp [h]
  unfold applyAF afApplies
  rw [hA, ht]
  by_cases hpos : afTotal st > 0
  · have hm : afTotal st % 256 = afTotal st := Nat.mod_eq_of_lt (by omega)
    simp [hpos, hm]
  · have h00 : afTotal st = 0 := by omega
    cases e
    simp_all

theorem applyAF_class31 (ddo : DDO) (e : Enc) : applyAF ddo true e = e := by
  unfold applyAF afApplies; simp

theorem elem_sim (T : Tables) (ed f : Nat) (st : OpState) (n : Node) (hf : Desc.f n.desc = 0) (hn : NodeOK n)
    (hr : RegsOK st) (hok : elemOK T st n.desc) :
    outOf (applyTables2node T ed (ddoOf f st) n) =
      (ddoOf f (stepElem T st n.desc none).1, (stepElem T st n.desc none).2, false) ∧
    RegsOK (stepElem T st n.desc none).1 := by
  have hf2 : ¬ (Desc.f n.desc = 2 ∧ (!n.flags.skipped) = true) := by omega
  unfold elemOK at hok
  unfold applyTables2node
  rw [if_neg hf2, applyTail_out _ _ _ _ hn]
  unfold stepElem baseEnc
  simp only [hf, ne_eq, not_true_eq_false, if_false]
  cases hfb : T.fetchB n.desc with
  | none =>
    rw [hfb] at hok
    obtain ⟨h1, h2, h3, h4, h5, h6, h7⟩ := hok
    have hloc : isLocalDescriptor n.desc = true := h2
    have hd31 : decide (Desc.x n.desc = 31) = false := by simp [h3]
    simp only [reassign, hf, hloc, if_true, hd31, h1, h2, and_self]
    rw [applyAF_data f st _ hr.2 (by simp) rfl]
    simp only [applyWidth, Bool.false_eq_true, if_false]
    rw [applyNumeric_spec _ _ _ _ _ _ (by simp [ddoOf, h6])]
    exact ⟨by simp [ddoOf, h4, h5, h1, h2, h6, h7, Enc.layout, kindOf], hr⟩
  | some e =>
    rw [hfb] at hok
    obtain ⟨hl, hc31, hfit⟩ := hok
    have hov : (ddoOf f st).overrides = [] := rfl
    simp only [hov, List.find?_nil, hr.1]
    by_cases hx : Desc.x n.desc = 31
    · have hne := hc31 hx
      simp only [hx, if_true, reassign, decide_true, applyAF_class31]
      refine ⟨?_, hr⟩
      cases ht : e.typ with
      | ccitt => exact absurd ht hne
      | numeric => simp [applyWidth, EntryB.enc, BType.toDType, ht, Enc.layout, kindOf]
      | codetable => simp [applyWidth, EntryB.enc, BType.toDType, ht, Enc.layout, kindOf]
      | flagtable => simp [applyWidth, EntryB.enc, BType.toDType, ht, Enc.layout, kindOf]
    · have hdf : decide False = false := rfl
      simp only [hx, if_false, reassign, hdf]
      cases ht : e.typ with
      | ccitt =>
        simp only [EntryB.enc, BType.toDType, ht]
        rw [applyAF_data f st _ hr.2 (by simp) rfl]
        refine ⟨?_, hr⟩
        by_cases hc0 : st.ccitt > 0
        · simp [applyWidth, ddoOf, hc0, Enc.layout, kindOf, Int.mul_comm]
        · simp [applyWidth, ddoOf, hc0, Enc.layout, kindOf]
      | codetable =>
        simp only [EntryB.enc, BType.toDType, ht]
        rw [applyAF_data f st _ hr.2 (by simp) rfl]
        exact ⟨by simp [applyWidth, Enc.layout, kindOf], hr⟩
      | flagtable =>
        simp only [EntryB.enc, BType.toDType, ht]
        rw [applyAF_data f st _ hr.2 (by simp) rfl]
        exact ⟨by simp [applyWidth, Enc.layout, kindOf], hr⟩
      | numeric =>
        simp only [EntryB.enc, BType.toDType, ht]
        rw [applyAF_data f st _ hr.2 (by simp) rfl]
        simp only [applyWidth, Bool.false_eq_true, if_false]
        rw [applyNumeric_spec _ _ _ _ _ _ hfit]
        by_cases h1 : st.ieee > 0
        · exact ⟨by simp [ddoOf, h1, Enc.layout, kindOf], by simpa [h1] using hr⟩
        · by_cases h2 : st.newRefBits > 0
          · exact ⟨by simp [ddoOf, h1, h2, Enc.layout, kindOf], by simpa [h1, h2] using hr⟩
          · by_cases h3 : st.localW > 0
            · refine ⟨?_, by simp only [h1, h2, h3, if_false, if_true]; exact ⟨rfl, hr.2⟩⟩
              by_cases hloc : isLocal n.desc = true <;> simp [ddoOf, h1, h2, h3, hloc, Enc.layout, kindOf]
            · exact ⟨by simp [ddoOf, h1, h2, h3, Enc.layout, kindOf], by simpa [h1, h2, h3] using hr⟩

theorem node_sim (T : Tables) (ed f : Nat) (hed : 2 ≤ ed ∧ ed ≤ 5) (st : OpState) (n : Node) (hn : NodeOK n)
    (hr : RegsOK st) (hin : inScope T ed st [n.desc] = true) :
    outOf (applyTables2node T ed (ddoOf f st) n) =
      (ddoOf f (step T st n.desc none).1, (step T st n.desc none).2, false) ∧
    RegsOK (step T st n.desc none).1 := by
  simp only [inScope, Bool.and_true] at hin
  unfold step
  by_cases hf2 : Desc.f n.desc = 2
  · simp only [hf2, if_true, Bool.and_eq_true] at hin ⊢
    obtain ⟨⟨⟨⟨hdef, h12⟩, -⟩, h5⟩, h4⟩ := hin
    have h4' : Desc.x n.desc = 4 ∧ Desc.y n.desc > 0 → afTotal st + Desc.y n.desc ≤ 64 := by
      intro h; simpa [h] using h4
    have hok : opOK ed st (Desc.x n.desc) (Desc.y n.desc) := by
      refine ⟨hdef, ?_, ?_, h4'⟩
      · intro h; simpa [h] using h12
      · intro h; simpa [h] using h5
    exact ⟨opnode_sim T ed f st n hf2 hn hed hok, regsOK_stepOp _ _ _ hr h4'⟩
  · by_cases hf0 : Desc.f n.desc = 0
    · rw [if_neg hf2, if_pos hf0] at hin ⊢
      refine elem_sim T ed f st n hf0 hn hr ?_
      unfold elemOK
      cases hfb : T.fetchB n.desc with
      | none =>
        rw [hfb] at hin
        simp only [Bool.and_eq_true, decide_eq_true_eq] at hin
        obtain ⟨⟨⟨⟨⟨⟨a1, a2⟩, a3⟩, a4⟩, a5⟩, a6⟩, a7⟩ := hin
        exact ⟨a1, a2, a3, a4, a5, a6, a7⟩
      | some e =>
        rw [hfb] at hin
        simp only [Bool.and_eq_true, decide_eq_true_eq] at hin
        obtain ⟨⟨a1, a2⟩, a3⟩ := hin
        refine ⟨?_, ?_, a3⟩
        · intro h; simpa [h] using a1
        · intro h; simpa [h] using a2
    · rw [if_neg hf2, if_neg hf0] at hin
      cases hin

theorem layout_ddoOf (T : Tables) (ed : Nat) (hed : 2 ≤ ed ∧ ed ≤ 5) :
    ∀ (ns : List Node) (f : Nat) (st : OpState), RegsOK st → (∀ n ∈ ns, NodeOK n) →
      inScope T ed st (ns.map (·.desc)) = true →
      (applyTablesAll T ed (ddoOf f st) ns).1.map layoutOf = layoutAll T st (ns.map (·.desc)) ∧
      (applyTablesAll T ed (ddoOf f st) ns).2.2 = false := by
  intro ns
  induction ns with
  | nil => intro _ _ _ _ _; exact ⟨rfl, rfl⟩
  | cons n ns ih =>
    intro f st hr hN hin
    simp only [List.map_cons, inScope, Bool.and_eq_true] at hin
    obtain ⟨ho, hr'⟩ := node_sim T ed f hed st n (hN n List.mem_cons_self) hr
      (by simp only [inScope, Bool.and_true]; exact hin.1)
    obtain ⟨r1, r2⟩ := ih f _ hr' (fun m hm => hN m (List.mem_cons_of_mem _ hm)) hin.2
    have h1 : (applyTables2node T ed (ddoOf f st) n).1 = _ := congrArg (·.1) ho
    have h2 : layoutOf (applyTables2node T ed (ddoOf f st) n).2.1 = _ := congrArg (·.2.1) ho
    have h3 : (applyTables2node T ed (ddoOf f st) n).2.2 = _ := congrArg (·.2.2) ho
    simp only [applyTablesAll, List.map_cons, layoutAll]
    rw [h1, h2, h3, r1, r2]
    exact ⟨rfl, rfl⟩

theorem layout_sim (T : Tables) (ed : Nat) (hed : 2 ≤ ed ∧ ed ≤ 5) :
    ∀ (ns : List Node) (ddo : DDO) (st : OpState), Sim ddo st → listSum st.af ≤ 64 →
      (∀ n ∈ ns, NodeOK n) → inScope T ed st (ns.map (·.desc)) = true →
      (applyTablesAll T ed ddo ns).1.map layoutOf = layoutAll T st (ns.map (·.desc)) ∧
      (applyTablesAll T ed ddo ns).2.2 = false := by
  intro ns ddo st hS hb
  rw [hS.eq_ddoOf]
  exact layout_ddoOf T ed hed ns _ st ⟨hS.noOverride.2, hb⟩

end Bufr
