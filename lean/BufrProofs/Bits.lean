import BufrModel.Bits
import Mathlib.Tactic.Ring
/-
  T-Bits: the byte-level cursor model refines an abstract MSB-first bit list.  A writer is seen through
  `W.bits` (what has been written), a reader through `R.bits` (what is still to be read); every lemma
  about a writer says which bits it appends, every lemma about a reader which value it returns for the
  bits that head the pending ones.
-/
namespace Bufr

@[simp] theorem bitsMSB_length (n v) : (bitsMSB n v).length = n := by
  induction n with
  | zero => rfl
  | succ n ih => simp [bitsMSB, ih]

theorem bitsMSB_getElem (n v i) (h : i < n) :
    (bitsMSB n v)[i]'(by simp [h]) = v.testBit (n - 1 - i) := by
  induction n generalizing i with
  | zero => omega
  | succ n ih =>
    cases i with
    | zero => simp [bitsMSB]
    | succ i =>
      simp only [bitsMSB, List.getElem_cons_succ]
      rw [ih i (by omega)]
      congr 1; omega

theorem bitsMSB_congr (n a b : Nat) (h : ∀ j, j < n → a.testBit j = b.testBit j) :
    bitsMSB n a = bitsMSB n b := by
  apply List.ext_getElem
  · simp
  · intro i h1 _
    have hi : i < n := by simpa using h1
    rw [bitsMSB_getElem _ _ _ hi, bitsMSB_getElem _ _ _ hi]
    exact h _ (by omega)

theorem bitsMSB_split (a b v : Nat) :
    bitsMSB (a + b) v = bitsMSB a (v >>> b) ++ bitsMSB b v := by
  induction a with
  | zero => simp [bitsMSB]
  | succ a ih =>
    rw [Nat.add_right_comm, bitsMSB, bitsMSB, ih, Nat.testBit_shiftRight, Nat.add_comm b a]
    rfl

theorem bitsMSB_chunk (t n v : Nat) (h : t ≤ n) :
    bitsMSB t (v >>> (n - t)) ++ bitsMSB (n - t) v = bitsMSB n v := by
  rw [← bitsMSB_split, Nat.add_sub_cancel' h]

theorem bitsMSB_mod (n v : Nat) : bitsMSB n (v % 2^n) = bitsMSB n v :=
  bitsMSB_congr _ _ _ fun j hj => by simp [Nat.testBit_mod_two_pow, hj]

theorem flatMap_bitsMSB_length (k : Nat) (l : List Nat) : (l.flatMap (bitsMSB k)).length = k * l.length := by
  induction l with
  | nil => simp
  | cons a l ih => rw [List.flatMap_cons, List.length_append, bitsMSB_length, ih, List.length_cons, Nat.mul_succ, Nat.add_comm]

theorem ofBitsMSB_foldl (bs : List Bool) (a : Nat) :
    bs.foldl (fun acc b => 2 * acc + b.toNat) a = a * 2^bs.length + ofBitsMSB bs := by
  induction bs generalizing a with
  | nil => simp [ofBitsMSB]
  | cons b bs ih =>
    simp only [List.foldl_cons, List.length_cons, ofBitsMSB]
    rw [ih, ih (2 * 0 + b.toNat), Nat.pow_succ]
    ring

theorem ofBitsMSB_append (as bs : List Bool) :
    ofBitsMSB (as ++ bs) = ofBitsMSB as * 2^bs.length + ofBitsMSB bs := by
  unfold ofBitsMSB
  rw [List.foldl_append, ofBitsMSB_foldl]
  rfl

@[simp] theorem ofBitsMSB_nil : ofBitsMSB [] = 0 := rfl

theorem ofBitsMSB_cons (b : Bool) (bs : List Bool) :
    ofBitsMSB (b :: bs) = b.toNat * 2^bs.length + ofBitsMSB bs := by
  simpa [ofBitsMSB] using ofBitsMSB_append [b] bs

theorem ofBitsMSB_lt (bs : List Bool) : ofBitsMSB bs < 2^bs.length := by
  induction bs with
  | nil => simp
  | cons b bs ih =>
    rw [ofBitsMSB_cons, List.length_cons, Nat.pow_succ]
    cases b <;> simp <;> omega

theorem ofBitsMSB_bitsMSB (n v : Nat) : ofBitsMSB (bitsMSB n v) = v % 2^n := by
  induction n with
  | zero => simp [bitsMSB, Nat.mod_one]
  | succ n ih =>
    rw [bitsMSB, ofBitsMSB_cons, ih, bitsMSB_length, Nat.toNat_testBit, Nat.pow_succ, Nat.mod_mul]
    ring

theorem ofBitsMSB_bitsMSB_of_lt (n v : Nat) (h : v < 2^n) : ofBitsMSB (bitsMSB n v) = v := by
  rw [ofBitsMSB_bitsMSB, Nat.mod_eq_of_lt h]

theorem bitsMSB_ofBitsMSB (bs : List Bool) : bitsMSB bs.length (ofBitsMSB bs) = bs := by
  induction bs with
  | nil => rfl
  | cons b bs ih =>
    have hlt := ofBitsMSB_lt bs
    rw [List.length_cons, bitsMSB, ofBitsMSB_cons, Nat.mul_comm, Nat.testBit_two_pow_mul_add _ hlt,
      bitsMSB_congr _ _ (ofBitsMSB bs) (fun j hj => by rw [Nat.testBit_two_pow_mul_add _ hlt, if_pos hj]), ih]
    cases b <;> simp

/-- bits of `b` below position `8-p` (everything after the first `p` stream bits) are zero -/
def lowZero (b p : Nat) : Prop := ∀ j, j < 8 - p → b.testBit j = false

structure WInv (w : W) : Prop where
  bitno_lt : w.bitno < 8
  low : lowZero w.curb w.bitno
  zero : w.bitno = 0 → w.curb = 0

theorem WInv_new (n : Nat) : WInv (W.new n) := by
  refine ⟨by simp [W.new], ?_, by simp [W.new]⟩
  intro j _; simp [W.new]

/-- `curb |= (x & mask) << (8-p-t)` of `bufr_putbits`: the low `t` bits of `x` or-ed into the byte `b` under the cursor,
behind the `p` stream bits it already holds -/
def orIn (b p t x : Nat) : Nat := b ||| ((x &&& (2^t - 1)) <<< (8 - p - t))

theorem testBit_orIn (b p t x j : Nat) :
    (orIn b p t x).testBit j =
      (b.testBit j || (decide (8 - p - t ≤ j ∧ j < 8 - p - t + t) && x.testBit (j - (8 - p - t)))) := by
  unfold orIn
  simp only [Nat.testBit_or, Nat.testBit_shiftLeft, Nat.testBit_and, Nat.testBit_two_pow_sub_one]
  by_cases h1 : 8 - p - t ≤ j
  · by_cases h2 : j < 8 - p - t + t
    · have : j - (8 - p - t) < t := by omega
      simp [h1, h2, this]
    · have : ¬ (j - (8 - p - t) < t) := by omega
      simp [h1, h2, this]
  · simp [h1]

theorem bitsMSB_orIn_take (b p t x : Nat) (hpt : p + t ≤ 8) (hz : lowZero b p) :
    (bitsMSB 8 (orIn b p t x)).take (p + t) = (bitsMSB 8 b).take p ++ bitsMSB t x := by
  apply List.ext_getElem
  · simp; omega
  · intro i h1 h2
    have hi : i < p + t := by simp at h1; omega
    rw [List.getElem_take, bitsMSB_getElem _ _ _ (by omega), testBit_orIn]
    by_cases hip : i < p
    · rw [List.getElem_append_left (by simp; omega)]
      rw [List.getElem_take, bitsMSB_getElem _ _ _ (by omega)]
      have : ¬ (8 - 1 - i < 8 - p - t + t) := by omega
      simp [this]
    · have hip' : p ≤ i := by omega
      rw [List.getElem_append_right (by simp; omega)]
      have hlen : ((bitsMSB 8 b).take p).length = p := by simp; omega
      simp only [hlen]
      rw [bitsMSB_getElem _ _ _ (by omega)]
      have hzb : b.testBit (8 - 1 - i) = false := hz _ (by omega)
      have c1 : 8 - p - t ≤ 8 - 1 - i := by omega
      have c2 : 8 - 1 - i < 8 - p - t + t := by omega
      simp only [hzb, Bool.false_or, c1, c2, and_self, decide_true, Bool.true_and]
      congr 1; omega

theorem orIn_lowZero (b p t x : Nat) (hpt : p + t ≤ 8) (hz : lowZero b p) :
    lowZero (orIn b p t x) (p + t) := by
  intro j hj
  rw [testBit_orIn, hz j (by omega)]
  have : ¬ (8 - p - t ≤ j) := by omega
  simp [this]

theorem chunk_bits (w : W) (x t : Nat) (hI : WInv w) (ht : w.bitno + t ≤ 8) :
    (w.chunk x t).bits = w.bits ++ bitsMSB t x ∧ WInv (w.chunk x t) := by
  have hs := bitsMSB_orIn_take w.curb w.bitno t x ht hI.low
  have hl := orIn_lowZero w.curb w.bitno t x ht hI.low
  unfold orIn at hs hl
  unfold W.chunk
  simp only
  split
  · next h8 =>
    rw [h8, List.take_of_length_le (by simp)] at hs
    refine ⟨?_, by simp, ?_, by simp⟩
    · simp only [W.bits, Array.toList_push, List.flatMap_append, List.flatMap_cons, List.flatMap_nil, List.append_nil,
        List.take_zero, hs, List.append_assoc]
    · intro j _; simp
  · refine ⟨by simp only [W.bits, hs, List.append_assoc], by simp; omega, hl, ?_⟩
    intro h0
    have ht0 : t = 0 := by simp only at h0; omega
    have hb0 : w.bitno = 0 := by simp only at h0; omega
    simp [ht0, hI.zero hb0]

/-- one round of `bufr_putbits`: a chunk that fills the byte under the cursor or exhausts the field -/
theorem chunk_round (w : W) (v left t : Nat) (hI : WInv w) (ht : t ≤ left) (hfit : w.bitno + t ≤ 8)
    (hend : t = left ∨ w.bitno + t = 8) :
    (w.chunk (v >>> (left - t)) t).bits ++ bitsMSB (left - t) v = w.bits ++ bitsMSB left v ∧
    WInv (w.chunk (v >>> (left - t)) t) ∧ (left - t = 0 ∨ (w.chunk (v >>> (left - t)) t).bitno = 0) := by
  obtain ⟨c1, c2⟩ := chunk_bits w (v >>> (left - t)) t hI hfit
  refine ⟨by rw [c1, List.append_assoc, bitsMSB_chunk t left v ht], c2, ?_⟩
  rcases hend with h | h
  · left; omega
  · right; unfold W.chunk; simp [h]

/-- The loop of `bufr_putbits` takes `min left 8` bits per round, which is right only at an octet boundary: the chunk
before the loop either exhausts the field or fills the byte under the cursor (`chunk_round`), hence `left = 0 ∨ w.bitno = 0`. -/
theorem putLoopF_bits (v : Nat) : ∀ (fuel left : Nat) (w : W), left ≤ fuel → WInv w →
    (left = 0 ∨ w.bitno = 0) →
    (W.putLoopF fuel w v left).bits = w.bits ++ bitsMSB left v ∧ WInv (W.putLoopF fuel w v left)
  | 0, left, w, hle, hI, _ => by
    obtain rfl : left = 0 := by omega
    simp [W.putLoopF, bitsMSB, hI]
  | f+1, left, w, hle, hI, hb => by
    unfold W.putLoopF
    split
    · next h0 => subst h0; simp [bitsMSB, hI]
    · obtain ⟨c1, c2, c3⟩ := chunk_round w v left (min left 8) hI (by omega) (by omega) (by omega)
      obtain ⟨r1, r2⟩ := putLoopF_bits v f _ _ (by omega) c2 c3
      exact ⟨by rw [r1, c1], r2⟩

@[simp] theorem alloc_bits (w : W) (len : Nat) : (w.alloc len).bits = w.bits := by
  unfold W.alloc W.bits; split <;> rfl

theorem alloc_inv (w : W) (len : Nat) (h : WInv w) : WInv (w.alloc len) := by
  unfold W.alloc; split
  · exact ⟨h.bitno_lt, h.low, h.zero⟩
  · exact h

/-- **T-Bits, writer.** `bufr_putbits` appends exactly the `n` low bits of `v`, MSB first. -/
theorem putbits_bits (w : W) (v n : Nat) (hI : WInv w) :
    (w.putbits v n).bits = w.bits ++ bitsMSB n v ∧ WInv (w.putbits v n) := by
  unfold W.putbits
  split
  · next h0 => subst h0; simp [bitsMSB, hI]
  · have hlt := hI.bitno_lt
    obtain ⟨c1, c2, c3⟩ := chunk_round w v n (min n (8 - w.bitno)) hI (by omega) (by omega) (by omega)
    obtain ⟨r1, r2⟩ := putLoopF_bits v _ _ _ (Nat.le_refl _) c2 c3
    have grow : ∀ w2 : W, WInv w2 →
        (if w2.filled > w2.maxDataLen then w2.alloc (w2.maxDataLen + 4096) else w2).bits = w2.bits ∧
        WInv (if w2.filled > w2.maxDataLen then w2.alloc (w2.maxDataLen + 4096) else w2) := by
      intro w2 h
      split
      · exact ⟨alloc_bits _ _, alloc_inv _ _ h⟩
      · exact ⟨rfl, h⟩
    obtain ⟨g1, g2⟩ := grow _ r2
    exact ⟨by rw [← c1, ← r1]; exact g1, g2⟩

theorem foldl_bits {α} (step : W → α → W) (bits : α → List Bool) : ∀ (l : List α) (w : W), WInv w →
    (∀ a ∈ l, ∀ w, WInv w → (step w a).bits = w.bits ++ bits a ∧ WInv (step w a)) →
    (l.foldl step w).bits = w.bits ++ l.flatMap bits ∧ WInv (l.foldl step w)
  | [], w, hI, _ => by simp [hI]
  | a :: l, w, hI, h => by
    obtain ⟨p1, p2⟩ := h a (by simp) w hI
    obtain ⟨q1, q2⟩ := foldl_bits step bits l _ p2 fun b hb => h b (by simp [hb])
    exact ⟨by rw [List.foldl_cons, q1, p1, List.flatMap_cons, List.append_assoc], q2⟩

/-- write a list of `(value, width)` fields -/
def W.putFields (w : W) (fs : List (Nat × Nat)) : W := fs.foldl (fun w f => w.putbits f.1 f.2) w

theorem putFields_nil (w : W) : w.putFields [] = w := rfl
theorem putFields_cons (w : W) (v n : Nat) (fs : List (Nat × Nat)) :
    w.putFields ((v, n) :: fs) = (w.putbits v n).putFields fs := rfl
theorem putFields_append (w : W) (a b : List (Nat × Nat)) : w.putFields (a ++ b) = (w.putFields a).putFields b :=
  List.foldl_append

theorem foldl_putFields {α} (g : α → List (Nat × Nat)) (F : W → α → W) (h : ∀ w a, F w a = w.putFields (g a)) :
    ∀ (l : List α) (w : W), l.foldl F w = w.putFields (l.flatMap g) := by
  intro l
  induction l with
  | nil => intro w; rfl
  | cons a l ih => intro w; rw [List.foldl_cons, h, ih, List.flatMap_cons, putFields_append]

theorem foldl_putbits {α} (v : α → Nat) (n : Nat) (l : List α) (w : W) :
    l.foldl (fun w a => w.putbits (v a) n) w = w.putFields (l.flatMap fun a => [(v a, n)]) :=
  foldl_putFields (fun a => [(v a, n)]) _ (fun _ _ => rfl) l w

def fieldBits (fs : List (Nat × Nat)) : List Bool := fs.flatMap (fun f => bitsMSB f.2 f.1)

theorem fieldBits_nil : fieldBits [] = [] := rfl
theorem fieldBits_cons (v n : Nat) (fs : List (Nat × Nat)) : fieldBits ((v, n) :: fs) = bitsMSB n v ++ fieldBits fs := rfl
theorem fieldBits_append (a b : List (Nat × Nat)) : fieldBits (a ++ b) = fieldBits a ++ fieldBits b := List.flatMap_append
theorem fieldBits_flatMap {α} (g : α → List (Nat × Nat)) (l : List α) :
    fieldBits (l.flatMap g) = l.flatMap fun a => fieldBits (g a) := List.flatMap_assoc

theorem putFields_bits (fs : List (Nat × Nat)) (w : W) (hI : WInv w) :
    (w.putFields fs).bits = w.bits ++ fieldBits fs ∧ WInv (w.putFields fs) :=
  foldl_bits _ _ fs w hI fun f _ w hw => putbits_bits w f.1 f.2 hw

/-- a byte string as 8-bit fields -/
def bytesF (s : List Nat) : List (Nat × Nat) := s.flatMap fun c => [(c, 8)]

theorem putstring_fields (w : W) (s : List Nat) : w.putstring s = w.putFields (bytesF s) :=
  foldl_putbits (fun c => c) 8 s w

theorem fieldBits_bytesF (s : List Nat) : fieldBits (bytesF s) = s.flatMap (bitsMSB 8) := by
  rw [bytesF, fieldBits_flatMap]
  simp only [fieldBits, List.flatMap_cons, List.flatMap_nil, List.append_nil]

def padF (s : List Nat) (enclen : Nat) : List (Nat × Nat) :=
  bytesF (s.take enclen) ++ bytesF (List.replicate (enclen - s.length) 32)

theorem putPadString_fields (w : W) (s : List Nat) (enclen : Nat) : w.putPadString s enclen = w.putFields (padF s enclen) := by
  unfold W.putPadString padF bytesF
  rw [putFields_append, foldl_putbits (fun c => c), foldl_putbits (fun c => c)]

theorem fieldBits_padF (s : List Nat) (enclen : Nat) :
    fieldBits (padF s enclen) = (s.take enclen ++ List.replicate (enclen - s.length) 32).flatMap (bitsMSB 8) := by
  rw [padF, fieldBits_append, fieldBits_bytesF, fieldBits_bytesF, List.flatMap_append]

/-- `bufr_put_padstring`: the first `enclen` characters, then blanks up to `enclen` octets -/
theorem putPadString_bits (w : W) (s : List Nat) (enclen : Nat) (hI : WInv w) :
    (w.putPadString s enclen).bits =
      w.bits ++ ((s.take enclen ++ List.replicate (enclen - s.length) 32).flatMap (bitsMSB 8)) ∧
    WInv (w.putPadString s enclen) := by
  rw [putPadString_fields, ← fieldBits_padF]
  exact putFields_bits _ w hI

/-- the writer stands at an octet boundary -/
def Aligned (w : W) : Prop := w.bitno = 0 ∧ w.curb = 0

/-- the octets of a field of 8 or 16 bits -/
def fieldOctets (f : Nat × Nat) : List Nat := if f.2 = 16 then [f.1 / 256 % 256, f.1 % 256] else [f.1 % 256]

theorem putbits_aligned (w : W) (v n : Nat) (hn : n = 8 ∨ n = 16) (h : Aligned w) :
    (w.putbits v n).done.toList = w.done.toList ++ fieldOctets (v, n) ∧ Aligned (w.putbits v n) := by
  obtain ⟨h0, hc⟩ := h
  have hm : ∀ x, x &&& 255 = x % 256 := fun x => Nat.and_two_pow_sub_one_eq_mod x 8
  unfold Aligned W.putbits W.putLoop W.chunk W.alloc
  -- one round of the loop for 8 bits, two for 16; `alloc` touches `maxDataLen` only
  rcases hn with rfl | rfl
  · simp [h0, hc, W.putLoopF, hm, fieldOctets]
    split <;> simp
  · simp [h0, hc, W.putLoopF, W.chunk, hm, Nat.shiftRight_eq_div_pow, fieldOctets]
    split <;> simp

theorem putFields_octets : ∀ (fs : List (Nat × Nat)) (w : W), (∀ f ∈ fs, f.2 = 8 ∨ f.2 = 16) → Aligned w →
    (w.putFields fs).done.toList = w.done.toList ++ fs.flatMap fieldOctets ∧ Aligned (w.putFields fs)
  | [], w, _, h => ⟨by rw [List.flatMap_nil, List.append_nil]; rfl, h⟩
  | (v, n) :: fs, w, hf, h => by
    obtain ⟨h1, h2⟩ := putbits_aligned w v n (hf _ List.mem_cons_self) h
    obtain ⟨q1, q2⟩ := putFields_octets fs _ (fun f hf' => hf f (List.mem_cons_of_mem _ hf')) h2
    rw [putFields_cons, q1, h1, List.flatMap_cons, List.append_assoc]
    exact ⟨rfl, q2⟩

def W.pos (w : W) : Nat := 8 * w.filled + w.bitno

theorem W.bits_length (w : W) (hI : WInv w) : w.bits.length = w.pos := by
  unfold W.bits W.pos W.filled
  rw [List.length_append, flatMap_bitsMSB_length, List.length_take, bitsMSB_length]
  have := hI.bitno_lt
  rw [Array.length_toList]
  omega

theorem putbits_pos (w : W) (v n : Nat) (hI : WInv w) : (w.putbits v n).pos = w.pos + n := by
  have h := putbits_bits w v n hI
  rw [← W.bits_length _ h.2, h.1, List.length_append, W.bits_length _ hI, bitsMSB_length]

@[simp] theorem alloc_filled (w : W) (len : Nat) : (w.alloc len).filled = w.filled := by
  unfold W.alloc W.filled; split <;> rfl

theorem alloc_max_ge (w : W) (len : Nat) : w.maxDataLen ≤ (w.alloc len).maxDataLen := by
  unfold W.alloc; split <;> simp; omega

/-- capacity invariant: everything written so far lies inside the allocation -/
def CapInv (w : W) : Prop := w.filled ≤ w.maxDataLen

@[simp] theorem chunk_max (w : W) (x t : Nat) : (w.chunk x t).maxDataLen = w.maxDataLen := by
  unfold W.chunk; simp only; split <;> rfl

theorem putLoopF_max (v : Nat) : ∀ (fuel left : Nat) (w : W),
    (W.putLoopF fuel w v left).maxDataLen = w.maxDataLen
  | 0, _, _ => rfl
  | f+1, left, w => by
    unfold W.putLoopF
    split
    · rfl
    · rw [putLoopF_max v f]; simp

/-- **C11, growth.** With at most 64 bits per call the write stays inside the `+10` slack,
and the buffer is grown so that the invariant holds again afterwards. -/
theorem putbits_cap (w : W) (v n : Nat) (hI : WInv w) (hc : CapInv w) (hn : n ≤ 64) :
    w.maxTouched n < w.maxDataLen + 10 ∧ CapInv (w.putbits v n) := by
  -- a call of at most 64 bits adds at most 8 octets to `filled ≤ maxDataLen`: inside the slack of 10; if it passed
  -- `maxDataLen`, the allocation grows by 4096
  have hb := hI.bitno_lt
  constructor
  · unfold W.maxTouched; unfold CapInv at hc; omega
  · have hp := putbits_pos w v n hI
    have hb' := (putbits_bits w v n hI).2.bitno_lt
    unfold W.pos at hp
    have hf : (w.putbits v n).filled ≤ w.filled + 8 := by omega
    unfold CapInv at *
    generalize hw2 : (w.chunk (v >>> (n - min n (8 - w.bitno))) (min n (8 - w.bitno))).putLoop v
      (n - min n (8 - w.bitno)) = w2 at *
    have hm : w2.maxDataLen = w.maxDataLen := by rw [← hw2, W.putLoop, putLoopF_max, chunk_max]
    have hpb : w.putbits v n = if n = 0 then w else
        if w2.filled > w2.maxDataLen then w2.alloc (w2.maxDataLen + 4096) else w2 := by
      unfold W.putbits; simp only [hw2]
    rw [hpb] at hf ⊢
    split
    · exact hc
    · split
      · next hg =>
        rw [if_neg ‹_›, if_pos hg, alloc_filled] at hf
        rw [alloc_filled]
        unfold W.alloc
        split
        · simp only; omega
        · omega
      · omega

/-- every write of the field list lands inside the current allocation (`maxDataLen + 10` octets) -/
def SafeWrites : W → List (Nat × Nat) → Prop
  | _, [] => True
  | w, f :: fs => w.maxTouched f.2 < w.maxDataLen + 10 ∧ SafeWrites (w.putbits f.1 f.2) fs

/-- **C11/C16, growth.** Fields of at most 64 bits are all written inside the allocation, which is grown in time
after each -/
theorem putFields_safe (fs : List (Nat × Nat)) (hfs : ∀ f ∈ fs, f.2 ≤ 64) : ∀ (w : W), WInv w → CapInv w →
    SafeWrites w fs ∧ CapInv (w.putFields fs) := by
  induction fs with
  | nil => intro w _ hc; exact ⟨trivial, hc⟩
  | cons f fs ih =>
    intro w h hc
    have h1 := putbits_cap w f.1 f.2 h hc (hfs f List.mem_cons_self)
    have h2 := ih (fun g hg => hfs g (List.mem_cons_of_mem _ hg)) _ (putbits_bits w f.1 f.2 h).2 h1.2
    exact ⟨⟨h1.1, h2.1⟩, h2.2⟩

theorem allBits_length (r : R) : r.allBits.length = 8 * r.maxDataLen := by
  unfold R.allBits; rw [flatMap_bitsMSB_length]; simp

theorem R.bits_length (r : R) : r.bits.length = 8 * r.maxDataLen - r.pos := by
  unfold R.bits; rw [List.length_drop, allBits_length]

theorem flatMap8_getElem (l : List Nat) (k : Nat) (hk : k < (l.flatMap (bitsMSB 8)).length) :
    (l.flatMap (bitsMSB 8))[k] = (l.getD (k / 8) 0).testBit (7 - k % 8) := by
  induction l generalizing k with
  | nil => simp at hk
  | cons a l ih =>
    simp only [List.flatMap_cons]
    by_cases h8 : k < 8
    · rw [List.getElem_append_left (by simpa using h8)]
      rw [bitsMSB_getElem _ _ _ h8]
      have : k / 8 = 0 := by omega
      have h2 : k % 8 = k := by omega
      simp [this, h2]
    · rw [List.getElem_append_right (by simp; omega)]
      simp only [bitsMSB_length]
      have hk' : k - 8 < (l.flatMap (bitsMSB 8)).length := by
        rw [List.flatMap_cons, List.length_append, bitsMSB_length] at hk; omega
      rw [ih _ hk']
      have : k / 8 = (k - 8) / 8 + 1 := by omega
      have h2 : (k - 8) % 8 = k % 8 := by omega
      rw [this, h2]; simp

theorem allBits_getElem (r : R) (k : Nat) (hk : k < r.allBits.length) :
    r.allBits[k] = (r.byte (k / 8)).testBit (7 - k % 8) := by
  unfold R.allBits at hk ⊢
  rw [flatMap8_getElem]
  have hlt : k / 8 < r.maxDataLen := by
    rw [flatMap_bitsMSB_length] at hk; simp at hk; omega
  simp [List.getD_eq_getElem?_getD, hlt]

theorem slice_in_byte (r : R) (c p t : Nat) (hc : c < r.maxDataLen) (hpt : p + t ≤ 8) :
    ofBitsMSB ((r.allBits.drop (8 * c + p)).take t) = (r.byte c >>> (8 - (t + p))) &&& (2^t - 1) := by
  have hlen := allBits_length r
  have : (r.allBits.drop (8 * c + p)).take t = bitsMSB t (r.byte c >>> (8 - (t + p))) := by
    apply List.ext_getElem
    · simp [hlen]; omega
    · intro i h1 h2
      have hi : i < t := by simp at h2; exact h2
      rw [List.getElem_take, List.getElem_drop, allBits_getElem, bitsMSB_getElem _ _ _ hi,
        Nat.testBit_shiftRight]
      have e1 : (8 * c + p + i) / 8 = c := by omega
      have e2 : (8 * c + p + i) % 8 = p + i := by omega
      rw [e1, e2]; congr 1; omega
  rw [this, ofBitsMSB_bitsMSB, Nat.and_two_pow_sub_one_eq_mod]

theorem take_add_drop {α} (l : List α) (a b : Nat) :
    l.take (a + b) = l.take a ++ (l.drop a).take b :=
  List.take_add

theorem ofBitsMSB_take_add (r : R) (bits p a b : Nat) (h : p + a + b ≤ 8 * r.maxDataLen) :
    bits * 2^(a + b) + ofBitsMSB ((r.allBits.drop p).take (a + b)) =
      (bits * 2^a + ofBitsMSB ((r.allBits.drop p).take a)) * 2^b + ofBitsMSB ((r.allBits.drop (p + a)).take b) := by
  have hl : ((r.allBits.drop (p + a)).take b).length = b := by
    rw [List.length_take, List.length_drop, allBits_length]; omega
  rw [take_add_drop, List.drop_drop, ofBitsMSB_append, hl, Nat.pow_add]
  ring

theorem shift_or_slice (r : R) (bits c t : Nat) (hc : c < r.maxDataLen) (ht : t ≤ 8) :
    (bits <<< t) ||| ((r.byte c >>> (8 - t)) &&& (2^t - 1)) =
      bits * 2^t + ofBitsMSB ((r.allBits.drop (8 * c)).take t) := by
  have hx : (r.byte c >>> (8 - t)) &&& (2^t - 1) < 2^t := by
    rw [Nat.and_two_pow_sub_one_eq_mod]; exact Nat.mod_lt _ (Nat.two_pow_pos _)
  have hs := slice_in_byte r c 0 t hc (by omega)
  simp only [Nat.add_zero] at hs
  rw [hs, ← Nat.shiftLeft_add_eq_or_of_lt hx, Nat.shiftLeft_eq]

theorem getLoopF_ok (r : R) : ∀ (fuel left bits cur : Nat), left ≤ fuel →
    8 * cur + left ≤ 8 * r.maxDataLen →
    ∃ c' b', r.getLoopF fuel bits cur left =
        (bits * 2^left + ofBitsMSB ((r.allBits.drop (8 * cur)).take left), 0, c', b') ∧
      8 * c' + b' = 8 * cur + left ∧ b' < 8
  | 0, left, bits, cur, hf, _ => by
    obtain rfl : left = 0 := by omega
    exact ⟨cur, 0, by simp [R.getLoopF], by omega, by omega⟩
  | f+1, left, bits, cur, hf, hle => by
    unfold R.getLoopF
    split
    · next h0 => subst h0; exact ⟨cur, 0, by simp, by omega, by omega⟩
    · have hc : cur < r.maxDataLen := by omega
      by_cases h8 : left < 8
      · have ht : min left 8 = left := by omega
        simp only [ht, if_neg (by omega : ¬ left = 8)]
        exact ⟨cur, left, by rw [shift_or_slice r bits cur left hc (by omega)], by omega, h8⟩
      · obtain ⟨m, rfl⟩ : ∃ m, left = 8 + m := ⟨left - 8, by omega⟩
        have ht : min (8 + m) 8 = 8 := by omega
        simp only [ht, if_true, Nat.add_sub_cancel_left]
        rw [if_neg (by omega : ¬ (cur + 1 ≥ r.maxDataLen ∧ m > 0)), shift_or_slice r bits cur 8 hc (by omega)]
        obtain ⟨c', b', e, hp, hb⟩ := getLoopF_ok r f m
          (bits * 2^8 + ofBitsMSB ((r.allBits.drop (8 * cur)).take 8)) (cur + 1) (by omega) (by omega)
        exact ⟨c', b', by rw [e, ofBitsMSB_take_add r bits (8 * cur) 8 m (by omega)]; rfl, by omega, hb⟩

structure RInv (r : R) : Prop where
  bitno_lt : r.bitno < 8

/-- `r'` is `r` moved forward by `n` bits over the same data -/
structure R.Adv (r r' : R) (n : Nat) : Prop where
  pos : r'.pos = r.pos + n
  inv : RInv r'
  data : r'.data = r.data
  max : r'.maxDataLen = r.maxDataLen

theorem R.Adv.bits {r r' : R} {n : Nat} (h : r.Adv r' n) : r'.bits = r.bits.drop n := by
  have : r'.allBits = r.allBits := by unfold R.allBits R.byte; rw [h.data, h.max]
  unfold R.bits
  rw [List.drop_drop, h.pos, this]

/-- **T-Bits, reader.** A read of `1 ≤ n ≤ 64` bits that fits in the section returns the next
`n` bits as a number, no error, and advances the cursor by exactly `n`. -/
theorem getbits_ok (r : R) (n : Nat) (hI : RInv r) (hn0 : 0 < n) (hn : n ≤ 64) (hfit : n ≤ r.bits.length) :
    ∃ r', r.getbits n = (ofBitsMSB (r.bits.take n), 0, r') ∧ r.Adv r' n := by
  have hb := hI.bitno_lt
  rw [R.bits_length] at hfit
  unfold R.bits
  unfold R.pos at hfit ⊢
  have hc : r.cur < r.maxDataLen := by omega
  unfold R.getbits
  rw [if_neg (by omega), if_neg (by omega), if_neg (by omega)]
  simp only
  -- `a` bits are left in the byte under the cursor
  obtain ⟨a, ha⟩ : ∃ a, r.bitno + a = 8 := ⟨8 - r.bitno, by omega⟩
  rw [show 8 - r.bitno = a by omega]
  by_cases hsmall : n < a
  · rw [show min n a = n by omega, if_neg (by omega), slice_in_byte r r.cur r.bitno n hc (by omega)]
    refine ⟨{ r with bitno := r.bitno + n }, rfl, ?_, ⟨?_⟩, rfl, rfl⟩
    · simp only [R.pos]
      omega
    · simp only
      omega
  · obtain ⟨m, rfl⟩ : ∃ m, n = a + m := ⟨n - a, by omega⟩
    simp only [show min (a + m) a = a by omega, Nat.add_sub_cancel_left]
    rw [if_pos (by omega), if_neg (by omega : ¬ (r.cur + 1 ≥ r.maxDataLen ∧ m > 0))]
    obtain ⟨c', b', e, hp, hb'⟩ := getLoopF_ok r _ m
      ((r.byte r.cur >>> (8 - (a + r.bitno))) &&& (2^a - 1)) (r.cur + 1) (Nat.le_refl _) (by omega)
    rw [R.getLoop, e]
    refine ⟨{ r with cur := c', bitno := b' }, ?_, ?_, ⟨hb'⟩, rfl, rfl⟩
    · have h0 := ofBitsMSB_take_add r 0 (8 * r.cur + r.bitno) a m (by omega)
      simp only [Nat.zero_mul, Nat.zero_add] at h0
      rw [← slice_in_byte r r.cur r.bitno a hc (by omega), h0, show 8 * r.cur + r.bitno + a = 8 * (r.cur + 1) by omega]
    · simp only [R.pos]
      omega

theorem getLoopF_err (r : R) : ∀ (fuel left bits cur : Nat), left ≤ fuel → cur < r.maxDataLen →
    8 * cur + left > 8 * r.maxDataLen → (r.getLoopF fuel bits cur left).2.1 = -1
  | 0, _, _, _, hf, hc, hgt => by omega
  | f+1, left, bits, cur, hf, hc, hgt => by
    unfold R.getLoopF
    rw [if_neg (by omega)]
    have ht : min left 8 = 8 := by omega
    simp only [ht, if_true]
    split
    · rfl
    · exact getLoopF_err r f (left - 8) _ _ (by omega) (by omega) (by omega)

/-- **C11, reads past the end report an error.** -/
theorem getbits_past_end (r : R) (n : Nat) (hI : RInv r) (hn0 : 0 < n) (hn : n ≤ 64)
    (hover : r.pos + n > 8 * r.maxDataLen) : (r.getbits n).2.1 < 0 := by
  have hb := hI.bitno_lt
  unfold R.pos at hover
  unfold R.getbits
  rw [if_neg (by omega), if_neg (by omega)]
  split
  · simp
  simp only
  have ht : min n (8 - r.bitno) = 8 - r.bitno := by omega
  rw [ht, if_pos (by omega)]
  split
  · simp
  · have := getLoopF_err r (n - (8 - r.bitno)) (n - (8 - r.bitno))
      ((r.byte r.cur >>> (8 - (8 - r.bitno + r.bitno))) &&& (2^(8 - r.bitno) - 1)) (r.cur + 1)
      (Nat.le_refl _) (by omega) (by omega)
    rw [R.getLoop]
    generalize r.getLoopF _ _ (r.cur + 1) (n - (8 - r.bitno)) = res at this ⊢
    obtain ⟨b, e, c, bn⟩ := res
    simp only at this ⊢
    rw [this]; decide

/-- `bufr_skip_bits` runs the loop of `bufr_getbits` and forgets the value -/
theorem skipLoopF_eq (r : R) : ∀ (f bits cur left : Nat), r.skipLoopF f cur left = (r.getLoopF f bits cur left).2
  | 0, _, _, _ => rfl
  | f+1, bits, cur, left => by
    unfold R.skipLoopF R.getLoopF
    split
    · rfl
    · simp only []
      split
      · split
        · rfl
        · exact skipLoopF_eq r f _ _ _
      · rfl

/-- **C11, skip.** Skipping `n ≥ 0` bits that fit moves the cursor by exactly `n`
(any `n`, not only `≤ 64`), reports no error, and touches no data. -/
theorem skipBits_ok (r : R) (n : Nat) (hI : RInv r) (hfit : n ≤ r.bits.length) :
    ∃ r', r.skipBits n = (0, r') ∧ r.Adv r' n := by
  have hb := hI.bitno_lt
  unfold R.skipBits
  by_cases hn0 : n = 0
  · subst hn0; exact ⟨r, by simp, rfl, hI, rfl, rfl⟩
  rw [R.bits_length] at hfit
  unfold R.pos at hfit
  rw [if_neg hn0, if_neg (by omega)]
  simp only
  obtain ⟨a, ha⟩ : ∃ a, r.bitno + a = 8 := ⟨8 - r.bitno, by omega⟩
  rw [show 8 - r.bitno = a by omega]
  by_cases hsmall : n < a
  · rw [show min n a = n by omega, if_neg (by omega)]
    refine ⟨{ r with bitno := r.bitno + n }, rfl, ?_, ⟨?_⟩, rfl, rfl⟩
    · simp only [R.pos]
      omega
    · simp only
      omega
  · obtain ⟨m, rfl⟩ : ∃ m, n = a + m := ⟨n - a, by omega⟩
    simp only [show min (a + m) a = a by omega, Nat.add_sub_cancel_left]
    rw [if_pos (by omega), if_neg (by omega : ¬ (r.cur + 1 ≥ r.maxDataLen ∧ m > 0))]
    obtain ⟨c', b', e, hp, hb'⟩ := getLoopF_ok r _ m 0 (r.cur + 1) (Nat.le_refl _) (by omega)
    rw [R.skipLoop, skipLoopF_eq r _ 0, e]
    refine ⟨{ r with cur := c', bitno := b' }, rfl, ?_, ⟨hb'⟩, rfl, rfl⟩
    simp only [R.pos]
    omega

/-- **C11, skips past the end report an error.** -/
theorem skipBits_past_end (r : R) (n : Nat) (hI : RInv r) (hn0 : 0 < n)
    (hpast : r.pos + n > 8 * r.maxDataLen) : (r.skipBits n).1 = -1 := by
  have hb := hI.bitno_lt
  unfold R.pos at hpast
  unfold R.skipBits
  rw [if_neg (by omega)]
  split
  · rfl
  simp only
  have ht : min n (8 - r.bitno) = 8 - r.bitno := by omega
  rw [ht, if_pos (by omega)]
  split
  · rfl
  · have := getLoopF_err r (n - (8 - r.bitno)) (n - (8 - r.bitno)) 0 (r.cur + 1) (Nat.le_refl _) (by omega) (by omega)
    rw [R.skipLoop, skipLoopF_eq r _ 0]
    generalize r.getLoopF _ 0 (r.cur + 1) (n - (8 - r.bitno)) = q at this ⊢
    obtain ⟨b, e, c, bn⟩ := q
    exact this

theorem R.ext_pos (a b : R) (ha : RInv a) (hb : RInv b) (hd : a.data = b.data)
    (hm : a.maxDataLen = b.maxDataLen) (hp : a.pos = b.pos) : a = b := by
  have h1 := ha.bitno_lt
  have h2 := hb.bitno_lt
  unfold R.pos at hp
  cases a; cases b
  simp only at *
  subst hd hm
  simp only [R.mk.injEq, true_and, and_true]
  omega

theorem getbits_view (r : R) (n v : Nat) (rest : List Bool) (hI : RInv r) (hn0 : 0 < n) (hn : n ≤ 64)
    (hb : r.bits = bitsMSB n v ++ rest) :
    ∃ r', r.getbits n = (v % 2^n, 0, r') ∧ r'.bits = rest ∧ RInv r' := by
  obtain ⟨r1, e, h1⟩ := getbits_ok r n hI hn0 hn (by simp [hb])
  refine ⟨r1, ?_, ?_, h1.inv⟩
  · rw [e, hb, List.take_left' (bitsMSB_length n v), ofBitsMSB_bitsMSB]
  · rw [h1.bits, hb, List.drop_left' (bitsMSB_length n v)]

/-- read a list of widths; stops at the first error -/
def R.getFields (r : R) : List Nat → Option (List Nat × R)
  | [] => some ([], r)
  | n :: ns =>
    let (v, e, r') := r.getbits n
    if e < 0 then none
    else match R.getFields r' ns with
      | some (vs, r'') => some (v :: vs, r'')
      | none => none

theorem getFields_ok (fs : List (Nat × Nat)) (hfs : ∀ f ∈ fs, 1 ≤ f.2 ∧ f.2 ≤ 64) :
    ∀ (r : R) (rest : List Bool), RInv r → r.bits = fieldBits fs ++ rest →
    ∃ r', r.getFields (fs.map (·.2)) = some (fs.map (fun f => f.1 % 2^f.2), r') ∧
      r.Adv r' (fieldBits fs).length := by
  induction fs with
  | nil => intro r rest h _; exact ⟨r, by simp [R.getFields], rfl, h, rfl, rfl⟩
  | cons f fs ih =>
    intro r rest hI hb
    have hf := hfs f (by simp)
    rw [fieldBits, List.flatMap_cons, List.append_assoc] at hb
    obtain ⟨r1, e1, h1⟩ := getbits_ok r f.2 hI hf.1 hf.2 (by simp [hb])
    rw [hb, List.take_left' (bitsMSB_length _ _), ofBitsMSB_bitsMSB] at e1
    obtain ⟨r2, e2, h2⟩ := ih (fun g hg => hfs g (by simp [hg])) r1 rest h1.inv
      (by rw [h1.bits, hb, List.drop_left' (bitsMSB_length _ _)]; rfl)
    refine ⟨r2, by simp [R.getFields, e1, e2], ?_, h2.inv, h2.data.trans h1.data, h2.max.trans h1.max⟩
    simp only [h2.pos, h1.pos, fieldBits, List.flatMap_cons, List.length_append, bitsMSB_length, Nat.add_assoc]

theorem ofBytes_allBits (w : W) :
    ∃ pad, (R.ofBytes w.bytes).allBits = w.bits ++ pad := by
  unfold R.ofBytes R.allBits R.byte W.bytes W.bits
  simp only
  have hmap : ∀ l : List Nat, (List.range l.length).map (fun i => l.toArray.getD i 0) = l := by
    intro l
    apply List.ext_getElem
    · simp
    · intro i h1 h2
      simp at h1
      simp [h1]
  rw [hmap]
  split
  · next h0 => exact ⟨[], by simp [h0]⟩
  · next h0 =>
    refine ⟨(bitsMSB 8 w.curb).drop w.bitno, ?_⟩
    rw [List.flatMap_append, List.append_assoc]
    congr 1
    simp [List.flatMap_cons]

end Bufr
