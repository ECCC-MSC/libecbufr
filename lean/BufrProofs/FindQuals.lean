import BufrModel.Find
import BufrSpec.Find
/-
  BufrProofs.FindQuals — the qualifier stack of bufr_expand_qualifiers against "the most recent descriptor
  carrying the qualifier, unless it is missing" (C17, qualifier part).

  `StackInv ns i st`: after the descriptors before position `i`, the stack `st` holds exactly the positions
  `k` that are the last carrier of their descriptor before `i` and are not missing (`Eff ns i k`), each once.
-/
namespace Bufr.Find
open Bufr Bufr.Spec.Find

/-- hypothesis of the qualifier theorems: no element descriptor of classes 01–09 in `ns` carries the class 31 or
class 33 flag -/
def flagsSane (ns : List Node) : Bool :=
  ns.all fun n => !isQualifier n.desc || (!n.flags.class31 && !n.flags.class33)

theorem isQualifier_eq (d : Nat) : isQualifier d = isQualifierDesc d := rfl

/-- the entry `k` of the stack has descriptor `d` -/
def HasDesc (ns : List Node) (d : Nat) (k : Nat) : Prop := (ns[k]?.map (·.desc)) = some d

theorem hasDesc_iff {ns : List Node} {d k : Nat} {q : Node} (hq : ns[k]? = some q) : HasDesc ns d k ↔ q.desc = d := by
  unfold HasDesc
  rw [hq]
  exact Option.some_inj

theorem carries_iff {n : Node} {d : Nat} :
    carries n d = true ↔ n.desc = d ∧ n.val.isSome = true ∧ n.flags.skipped = false := by
  simp only [carries, Bool.and_eq_true, beq_iff_eq, Bool.not_eq_true', and_assoc]

theorem carries_desc {n : Node} {d : Nat} (h : carries n d = true) : n.desc = d := (carries_iff.mp h).1

theorem lastCarrier_succ {ns : List Node} {i : Nat} {n : Node} (hn : ns[i]? = some n) (d : Nat) :
    lastCarrier ns d (i + 1) = if carries n d then some i else lastCarrier ns d i := by
  rw [lastCarrier, hn]

theorem lastCarrier_some {ns : List Node} {d : Nat} : ∀ {i k : Nat}, lastCarrier ns d i = some k →
    k < i ∧ ∃ n, ns[k]? = some n ∧ carries n d = true := by
  intro i
  induction i with
  | zero => intro k h; cases h
  | succ i ih =>
    intro k h
    rw [lastCarrier] at h
    split at h
    · rename_i n hn
      split at h
      · rename_i hc
        cases h
        exact ⟨Nat.lt_succ_self _, n, hn, hc⟩
      · exact (ih h).imp Nat.lt_succ_of_lt id
    · exact (ih h).imp Nat.lt_succ_of_lt id

theorem replaceLast_spec {ns : List Node} {d : Nat} {new : Option Nat} : ∀ (st : List Nat),
    match stackReplaceLast ns d new st with
    | none => ∀ k ∈ st, ¬ HasDesc ns d k
    | some st' => ∃ pre k post, st = pre ++ k :: post ∧ HasDesc ns d k ∧ (∀ x ∈ post, ¬ HasDesc ns d x) ∧
        st' = pre ++ (new.toList ++ post) := by
  intro st
  induction st with
  | nil => exact fun k hk => nomatch hk
  | cons a rest ih =>
    unfold stackReplaceLast
    split at ih
    · rename_i hr
      rw [hr]
      by_cases ha : (ns[a]?.map (·.desc)) = some d
      · rw [if_pos ha]
        exact ⟨[], a, rest, rfl, ha, ih, rfl⟩
      · rw [if_neg ha]
        exact List.forall_mem_cons.mpr ⟨ha, ih⟩
    · rename_i r hr
      rw [hr]
      obtain ⟨pre, k, post, h1, h2, h3, h4⟩ := ih
      exact ⟨a :: pre, k, post, congrArg (a :: ·) h1, h2, h3, congrArg (a :: ·) h4⟩

theorem replaceLast_mem {ns : List Node} {d : Nat} {new : Option Nat} {st : List Nat} (hnd : st.Nodup)
    (huniq : ∀ x ∈ st, ∀ y ∈ st, HasDesc ns d x → HasDesc ns d y → x = y) (hnew : ∀ j ∈ new, j ∉ st) :
    ((stackReplaceLast ns d new st).getD (st ++ new.toList)).Nodup ∧
    ∀ x, x ∈ (stackReplaceLast ns d new st).getD (st ++ new.toList) ↔ (x ∈ st ∧ ¬ HasDesc ns d x) ∨ x ∈ new := by
  have hnn : new.toList.Nodup := by cases new <;> simp
  have h := replaceLast_spec (ns := ns) (d := d) (new := new) st
  split at h
  · rename_i hr
    rw [hr, Option.getD_none]
    refine ⟨List.nodup_append.mpr ⟨hnd, hnn, fun a ha b hb e => hnew b (Option.mem_toList.mp hb) (e ▸ ha)⟩, fun x => ?_⟩
    rw [List.mem_append, Option.mem_toList]
    exact or_congr_left ⟨fun hx => ⟨hx, h x hx⟩, And.left⟩
  · rename_i st' hr
    rw [hr, Option.getD_some]
    obtain ⟨pre, k, post, rfl, h2, h3, rfl⟩ := h
    obtain ⟨n1, n2, n3⟩ := List.nodup_append.mp hnd
    have hpre : ∀ x ∈ pre, ¬ HasDesc ns d x := fun x hx hH =>
      n3 x hx k List.mem_cons_self
        (huniq x (List.mem_append_left _ hx) k (List.mem_append_right _ List.mem_cons_self) hH h2)
    refine ⟨List.nodup_append.mpr ⟨n1, List.nodup_append.mpr ⟨hnn, (List.nodup_cons.mp n2).2, ?_⟩, ?_⟩, fun x => ?_⟩
    · exact fun a ha b hb e => hnew a (Option.mem_toList.mp ha)
        (List.mem_append_right _ (List.mem_cons_of_mem _ (e ▸ hb)))
    · intro a ha b hb e
      rcases List.mem_append.mp hb with hb | hb
      · exact hnew b (Option.mem_toList.mp hb) (List.mem_append_left _ (e ▸ ha))
      · exact n3 a ha b (List.mem_cons_of_mem _ hb) e
    · simp only [List.mem_append, List.mem_cons, Option.mem_toList]
      constructor
      · rintro (h | h | h)
        · exact .inl ⟨.inl h, hpre x h⟩
        · exact .inr h
        · exact .inl ⟨.inr (.inr h), h3 x h⟩
      · rintro (⟨h | rfl | h, hH⟩ | h)
        · exact .inl h
        · exact absurd h2 hH
        · exact .inr (.inr h)
        · exact .inr (.inl h)

/-- position `k` holds a qualifier in effect before position `i`: it is the last carrier of its descriptor, of
classes 01–09, and not missing -/
def Eff (ns : List Node) (i k : Nat) : Prop :=
  ∃ q, ns[k]? = some q ∧ isQualifier q.desc = true ∧ q.val.isSome = true ∧
    q.val.isMissing = false ∧ lastCarrier ns q.desc i = some k

/-- the invariant of the head comment; `good` says `Eff ns i k` of every entry `k`, written out -/
structure StackInv (ns : List Node) (i : Nat) (st : List Nat) : Prop where
  nodup : st.Nodup
  good : ∀ k ∈ st, ∃ q, ns[k]? = some q ∧ isQualifier q.desc = true ∧ q.val.isSome = true ∧
    q.val.isMissing = false ∧ lastCarrier ns q.desc i = some k
  complete : ∀ d k q, isQualifier d = true → lastCarrier ns d i = some k → ns[k]? = some q →
    q.val.isMissing = false → k ∈ st

theorem stackInv_iff {ns : List Node} {i : Nat} {st : List Nat} :
    StackInv ns i st ↔ st.Nodup ∧ ∀ k, k ∈ st ↔ Eff ns i k := by
  constructor
  · exact fun h => ⟨h.nodup, fun k => ⟨h.good k, fun ⟨q, hq, hqual, _, hm, hl⟩ => h.complete q.desc k q hqual hl hq hm⟩⟩
  · rintro ⟨hnd, hmem⟩
    refine ⟨hnd, fun k hk => (hmem k).mp hk, fun d k q hd hl hq hm => (hmem k).mpr ?_⟩
    obtain ⟨_, n, hn, hc⟩ := lastCarrier_some hl
    cases hq.symm.trans hn
    obtain ⟨rfl, hs, _⟩ := carries_iff.mp hc
    exact ⟨q, hq, hd, hs, hm, hl⟩

theorem StackInv.lt {ns : List Node} {i : Nat} {st : List Nat} (h : StackInv ns i st) : ∀ k ∈ st, k < i := by
  intro k hk
  obtain ⟨q, _, _, _, _, hl⟩ := h.good k hk
  exact (lastCarrier_some hl).1

theorem StackInv.hasDesc {ns : List Node} {i : Nat} {st : List Nat} (h : StackInv ns i st) {d k : Nat}
    (hk : k ∈ st) (hd : HasDesc ns d k) : lastCarrier ns d i = some k ∧ isQualifier d = true := by
  obtain ⟨q, hq, hqual, _, _, hl⟩ := h.good k hk
  cases (hasDesc_iff hq).mp hd
  exact ⟨hl, hqual⟩

theorem StackInv.uniq {ns : List Node} {i : Nat} {st : List Nat} (h : StackInv ns i st) (d : Nat) :
    ∀ x ∈ st, ∀ y ∈ st, HasDesc ns d x → HasDesc ns d y → x = y :=
  fun _ hx _ hy hdx hdy => Option.some.inj ((h.hasDesc hx hdx).1.symm.trans (h.hasDesc hy hdy).1)

theorem stackInv_nil (ns : List Node) : StackInv ns 0 [] :=
  ⟨List.nodup_nil, fun _ hk => (nomatch hk), fun _ _ _ _ h => (nomatch h)⟩

theorem eff_skip {ns : List Node} {i : Nat} {n : Node} (hn : ns[i]? = some n)
    (hno : ∀ d, isQualifier d = true → carries n d = false) (k : Nat) : Eff ns (i + 1) k ↔ Eff ns i k := by
  have hstep : ∀ d, isQualifier d = true → lastCarrier ns d (i + 1) = lastCarrier ns d i := fun d hd => by
    rw [lastCarrier_succ hn, hno d hd]; rfl
  constructor
  · exact fun ⟨q, h1, h2, h3, h4, h5⟩ => ⟨q, h1, h2, h3, h4, hstep _ h2 ▸ h5⟩
  · exact fun ⟨q, h1, h2, h3, h4, h5⟩ => ⟨q, h1, h2, h3, h4, (hstep _ h2).symm ▸ h5⟩

theorem eff_carrier {ns : List Node} {i : Nat} {n : Node} (hn : ns[i]? = some n) (hq : isQualifier n.desc = true)
    (hc : carries n n.desc = true) (k : Nat) :
    Eff ns (i + 1) k ↔ (Eff ns i k ∧ ¬ HasDesc ns n.desc k) ∨ (k = i ∧ n.val.isMissing = false) := by
  have hother : ∀ d, d ≠ n.desc → lastCarrier ns d (i + 1) = lastCarrier ns d i := fun d hd => by
    rw [lastCarrier_succ hn, if_neg fun h => hd (carries_desc h).symm]
  have hself : lastCarrier ns n.desc (i + 1) = some i := by rw [lastCarrier_succ hn, if_pos hc]
  constructor
  · rintro ⟨q, h1, h2, h3, h4, h5⟩
    by_cases hd : q.desc = n.desc
    · rw [hd, hself] at h5
      cases h5
      cases h1.symm.trans hn
      exact .inr ⟨rfl, h4⟩
    · exact .inl ⟨⟨q, h1, h2, h3, h4, hother _ hd ▸ h5⟩, fun hH => hd ((hasDesc_iff h1).mp hH)⟩
  · rintro (⟨⟨q, h1, h2, h3, h4, h5⟩, hH⟩ | ⟨rfl, hm⟩)
    · exact ⟨q, h1, h2, h3, h4, (hother _ fun e => hH ((hasDesc_iff h1).mpr e)).symm ▸ h5⟩
    · exact ⟨n, hn, hq, (carries_iff.mp hc).2.1, hm, hself⟩

theorem stackInv_step {ns : List Node} (hs : flagsSane ns = true) {i : Nat} {st : List Nat} {n : Node}
    (hn : ns[i]? = some n) (h : StackInv ns i st) :
    StackInv ns (i + 1) (if n.flags.class31 || n.flags.class33 then st else stackUpdate ns st i n) := by
  obtain ⟨hnd, hmem⟩ := stackInv_iff.mp h
  have hsane : isQualifier n.desc = true → (n.flags.class31 || n.flags.class33) = false := fun hq => by
    have := List.all_eq_true.mp hs n (List.mem_of_getElem? hn)
    rw [hq] at this
    simpa using this
  by_cases hc : isQualifier n.desc = true ∧ carries n n.desc = true
  · obtain ⟨hq, hc⟩ := hc
    obtain ⟨_, hsome, hskip⟩ := carries_iff.mp hc
    have hi : i ∉ st := fun hx => Nat.lt_irrefl _ (h.lt i hx)
    rw [hsane hq, if_neg Bool.false_ne_true, stackUpdate, hq, hsome, hskip]
    simp only [Bool.and_self, Bool.not_false, if_true]
    refine stackInv_iff.mpr ?_
    split
    · -- missing: the qualifier is cancelled
      rename_i hm
      have hr := replaceLast_mem (new := none) hnd (h.uniq n.desc) (fun _ hj => nomatch hj)
      rw [Option.toList_none, List.append_nil] at hr
      refine ⟨hr.1, fun k => (hr.2 k).trans ?_⟩
      rw [eff_carrier hn hq hc, hmem, hm]
      exact or_congr_right ⟨fun h => (nomatch h), fun h => (nomatch h.2)⟩
    · -- redefined in place, or appended
      rename_i hm
      have hr := replaceLast_mem (new := some i) hnd (h.uniq n.desc) (fun j hj => Option.some.inj hj ▸ hi)
      refine ⟨hr.1, fun k => (hr.2 k).trans ?_⟩
      rw [eff_carrier hn hq hc, hmem, Bool.eq_false_iff.mpr hm]
      exact or_congr_right ⟨fun h => ⟨(Option.some.inj h).symm, rfl⟩, fun h => h.1 ▸ rfl⟩
  · -- nothing for the stack: flagged, no qualifier, no value, or a placeholder
    have hno : ∀ d, isQualifier d = true → carries n d = false := fun d hd =>
      Bool.eq_false_iff.mpr fun hcd => hc (carries_desc hcd ▸ ⟨hd, hcd⟩)
    have hst : (if n.flags.class31 || n.flags.class33 then st else stackUpdate ns st i n) = st := by
      split
      · rfl
      · unfold stackUpdate
        split
        · rename_i hcond
          simp only [Bool.and_eq_true, Bool.not_eq_true'] at hcond
          exact absurd ⟨hcond.1.1, carries_iff.mpr ⟨rfl, hcond.1.2, hcond.2⟩⟩ hc
        · rfl
    rw [hst]
    exact stackInv_iff.mpr ⟨hnd, fun k => (hmem k).trans (eff_skip hn hno k).symm⟩

theorem findSome_unique {α β : Type} (f : α → Option β) : ∀ (l : List α) (k : α), k ∈ l →
    (∀ k' ∈ l, (f k').isSome = true → k' = k) → l.findSome? f = f k := by
  intro l
  induction l with
  | nil => exact fun k hk => nomatch hk
  | cons a t ih =>
    intro k hk hu
    rw [List.findSome?_cons]
    cases hfa : f a with
    | some b => rw [← hu a List.mem_cons_self (hfa ▸ rfl), hfa]
    | none =>
      rcases List.mem_cons.mp hk with rfl | hk'
      · -- `f k = none`: nothing else answers either
        rw [hfa, List.findSome?_eq_none_iff]
        intro x hx
        cases hfx : f x with
        | none => rfl
        | some b => exact absurd (hu x (List.mem_cons_of_mem _ hx) (hfx ▸ rfl) ▸ hfx) (hfa ▸ nofun)
      · exact ih k hk' fun k' hk'' => hu k' (List.mem_cons_of_mem _ hk'')

theorem qualAt_eq_some {ns : List Node} {d k : Nat} {q : Node} :
    qualAt ns d k = some q ↔ ns[k]? = some q ∧ q.desc = d := by
  unfold qualAt
  cases ns[k]? with
  | none => exact ⟨nofun, fun h => nomatch h.1⟩
  | some q' =>
    show (if q'.desc = d then some q' else none) = some q ↔ some q' = some q ∧ q.desc = d
    split
    · rename_i hd
      exact ⟨fun h => ⟨h, Option.some.inj h ▸ hd⟩, fun h => h.1⟩
    · rename_i hd
      exact ⟨nofun, fun h => absurd (Option.some.inj h.1 ▸ h.2) hd⟩

/-- the qualifier in effect as the spec defines it, from the backward scan -/
def inEffectScan (ns : List Node) (i d : Nat) : Option Nat :=
  if !isQualifierDesc d then none else effective ns d i

theorem inEffectScan_eq_some {ns : List Node} {i d k : Nat} :
    inEffectScan ns i d = some k ↔ Eff ns i k ∧ HasDesc ns d k := by
  unfold inEffectScan effective
  constructor
  · intro h
    split at h
    · cases h
    · rename_i hq
      split at h
      · cases h
      · rename_i k' hl
        obtain ⟨_, n, hn, hc⟩ := lastCarrier_some hl
        rw [hn] at h
        simp only [] at h
        split at h
        · cases h
        · rename_i hm
          cases h
          obtain ⟨rfl, hs, _⟩ := carries_iff.mp hc
          exact ⟨⟨n, hn, by rw [isQualifier_eq]; simpa using hq, hs, Bool.eq_false_iff.mpr hm, hl⟩, (hasDesc_iff hn).mpr rfl⟩
  · rintro ⟨⟨q, hq, hqual, _, hm, hl⟩, hH⟩
    cases (hasDesc_iff hq).mp hH
    rw [← isQualifier_eq, hqual, hl]
    simp only [Bool.not_true, Bool.false_eq_true, if_false, hq, hm]

theorem stackCopy_eq {ns : List Node} {i : Nat} {st : List Nat} (h : StackInv ns i st) : stackCopy ns st = st := by
  unfold stackCopy
  rw [List.filter_eq_self]
  intro k hk
  obtain ⟨q, h1, _, h3, h4, _⟩ := h.good k hk
  simp [h1, h3, h4]

theorem fetch_of_inv {ns : List Node} {i : Nat} {st : List Nat} (h : StackInv ns i st) (d : Nat) :
    fetchRtmdQualifier ns (stackCopy ns st) d = (inEffectScan ns i d).bind (ns[·]?) := by
  rw [stackCopy_eq h]
  unfold fetchRtmdQualifier
  have hmem := (stackInv_iff.mp h).2
  -- an entry that answers is the qualifier in effect
  have hans : ∀ x ∈ st, ∀ q, qualAt ns d x = some q → inEffectScan ns i d = some x := fun x hx q hq =>
    inEffectScan_eq_some.mpr ⟨(hmem x).mp hx, (hasDesc_iff (qualAt_eq_some.mp hq).1).mpr (qualAt_eq_some.mp hq).2⟩
  cases he : inEffectScan ns i d with
  | none =>
    refine List.findSome?_eq_none_iff.mpr fun x hx => ?_
    cases hq : qualAt ns d x with
    | none => rfl
    | some q => exact nomatch he.symm.trans (hans x hx q hq)
  | some k =>
    obtain ⟨hE, hH⟩ := inEffectScan_eq_some.mp he
    have hk : k ∈ st := (hmem k).mpr hE
    obtain ⟨q, hq, _⟩ := hE
    rw [findSome_unique (qualAt ns d) st k hk]
    · exact (qualAt_eq_some.mpr ⟨hq, (hasDesc_iff hq).mp hH⟩).trans hq.symm
    · intro x hx hs
      obtain ⟨q', hq'⟩ := Option.isSome_iff_exists.mp hs
      exact Option.some.inj ((hans x hx q' hq').symm.trans he)

theorem expandQualsGo_cons (ns : List Node) (a : Node) (t : List Node) (prev : List (List Nat)) (i : Nat)
    (st : List Nat) :
    expandQualsGo true ns (a :: t) prev i st =
      (if a.flags.class31 || a.flags.class33 then prev.headD [] else stackCopy ns st) ::
        expandQualsGo true ns t prev.tail (i + 1)
          (if a.flags.class31 || a.flags.class33 then st else stackUpdate ns st i a) := by
  rw [expandQualsGo]
  split <;> rfl

theorem expandQualsGo_spec {ns : List Node} (hs : flagsSane ns = true) :
    ∀ (k i : Nat) (prev : List (List Nat)) (st : List Nat), i + k = ns.length → StackInv ns i st →
      ∀ (j : Nat) (n : Node), ns[i + j]? = some n →
        ((n.flags.class31 || n.flags.class33) = true →
          (expandQualsGo true ns (ns.drop i) prev i st).getD j [] = prev.getD j []) ∧
        ((n.flags.class31 || n.flags.class33) = false → ∀ d,
          fetchRtmdQualifier ns ((expandQualsGo true ns (ns.drop i) prev i st).getD j []) d =
            (inEffectScan ns (i + j) d).bind (ns[·]?)) := by
  intro k
  induction k with
  | zero =>
    intro i _ _ hi _ j n hj
    rw [List.getElem?_eq_none (by omega)] at hj
    cases hj
  | succ k ih =>
    intro i prev st hi hinv j n hj
    have hlt : i < ns.length := by omega
    rw [List.drop_eq_getElem_cons hlt, expandQualsGo_cons]
    cases j with
    | zero =>
      cases Option.some.inj ((List.getElem?_eq_getElem hlt).symm.trans hj)
      rw [List.getD_cons_zero]
      refine ⟨fun hfl => ?_, fun hfl d => ?_⟩
      · rw [if_pos hfl]; cases prev <;> rfl
      · rw [hfl, if_neg Bool.false_ne_true]; exact fetch_of_inv hinv d
    | succ j =>
      rw [← Nat.add_assoc, Nat.add_right_comm] at hj ⊢
      have := ih (i + 1) prev.tail _ (by omega) (stackInv_step hs (List.getElem?_eq_getElem hlt) hinv) j n hj
      rw [List.getD_cons_succ]
      rwa [show prev.tail.getD j [] = prev.getD (j + 1) [] by cases prev <;> rfl] at this

theorem inEffect_eq {ns : List Node} {i : Nat} {n : Node} (hn : ns[i]? = some n) (d : Nat) :
    inEffect ns i d = if n.flags.class31 || n.flags.class33 then none else inEffectScan ns i d := by
  unfold inEffect inEffectScan
  rw [hn]
  show (if (n.flags.class31 || n.flags.class33 || !isQualifierDesc d) = true then none else effective ns d i) = _
  cases n.flags.class31 || n.flags.class33 <;> rfl

theorem inEffect_some {ns : List Node} {i d p : Nat} (h : inEffect ns i d = some p) :
    ∃ q, ns[p]? = some q ∧ q.desc = d ∧ q.val.isSome = true ∧ q.val.isMissing = false := by
  cases hn : ns[i]? with
  | none => unfold inEffect at h; rw [hn] at h; cases h
  | some n =>
    rw [inEffect_eq hn] at h
    split at h
    · cases h
    · obtain ⟨⟨q, hq, _, hs, hm, _⟩, hH⟩ := inEffectScan_eq_some.mp h
      exact ⟨q, hq, (hasDesc_iff hq).mp hH, hs, hm⟩

/-- **qualifier tracking**: after `bufr_expand_qualifiers` (tracking on, lists empty or not before), the list
of every descriptor that is not flagged class 31/33 answers `bufr_fetch_rtmd_qualifier` with the qualifier in
effect; flagged descriptors keep the list they had -/
theorem expandQualifiers_spec {ns : List Node} (hs : flagsSane ns = true) (prev : List (List Nat))
    (i : Nat) (n : Node) (hn : ns[i]? = some n) :
    ((n.flags.class31 || n.flags.class33) = true →
      (expandQualifiers true ns prev).2.getD i [] = prev.getD i []) ∧
    ((n.flags.class31 || n.flags.class33) = false → ∀ d,
      fetchRtmdQualifier ns ((expandQualifiers true ns prev).2.getD i []) d = (inEffect ns i d).bind (ns[·]?)) := by
  have hne : ns.isEmpty = false := by
    cases ns with
    | nil => cases hn
    | cons _ _ => rfl
  unfold expandQualifiers
  rw [hne, if_neg Bool.false_ne_true]
  have h := expandQualsGo_spec hs ns.length 0 prev [] (Nat.zero_add _) (stackInv_nil ns) i n ((Nat.zero_add i).symm ▸ hn)
  refine ⟨h.1, fun hfl d => ?_⟩
  have h2 := h.2 hfl d
  rw [Nat.zero_add] at h2
  rw [inEffect_eq hn d, hfl, if_neg Bool.false_ne_true]
  exact h2

end Bufr.Find
