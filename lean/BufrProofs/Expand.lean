import BufrModel.Expand
import BufrSpec.Expand
/-
  BufrProofs.Expand — the flat flagged expansion of `bufr_expand_list` with `flags = 0`
  (what `bufr_finalize_template` computes) refines regulation 94.5 for Table D sequences and
  fixed replication, delayed replication groups being kept as written.
-/
namespace Bufr
open Bufr.Spec

theorem ite_eq_cases {α : Type} {c : Prop} [Decidable c] {a b v : α}
    (h : (if c then a else b) = v) : c ∧ a = v ∨ ¬ c ∧ b = v := by
  split at h
  · exact Or.inl ⟨‹c›, h⟩
  · exact Or.inr ⟨‹¬ c›, h⟩

theorem ite_eq_neg {α : Type} {c : Prop} [Decidable c] {a b v : α}
    (h : (if c then a else b) = v) (ha : a ≠ v) : ¬ c ∧ b = v :=
  (ite_eq_cases h).resolve_left fun h' => ha h'.2

theorem prop_ite {α : Type} {P : α → Prop} {c : Prop} [Decidable c] {x y : α} (hx : c → P x) (hy : ¬ c → P y) :
    P (if c then x else y) := by
  split
  · exact hx ‹c›
  · exact hy ‹¬ c›

/-- a node no expansion has touched yet -/
def Fresh (n : Node) : Prop := n.flags.skipped = false ∧ n.flags.expanded = false

/-- the descriptors that carry data or are still to be resolved: everything not flagged SKIPPED -/
def items (ns : List Node) : List Nat := (ns.filter (fun n => !n.flags.skipped)).map (·.desc)

@[simp] theorem items_nil : items [] = [] := rfl

theorem items_cons (n : Node) (ns : List Node) :
    items (n :: ns) = if n.flags.skipped then items ns else n.desc :: items ns := by
  unfold items
  cases h : n.flags.skipped <;> simp [h]

theorem items_append (a b : List Node) : items (a ++ b) = items a ++ items b := by
  unfold items; simp

theorem items_of_not_skipped (ns : List Node) (h : ∀ n ∈ ns, n.flags.skipped = false) :
    items ns = ns.map (·.desc) := by
  induction ns with
  | nil => rfl
  | cons n ns ih =>
    rw [items_cons, h n (by simp), ih (fun m hm => h m (by simp [hm]))]
    simp

theorem resolveUnknown_desc (T : Tables) (n : Node) : (resolveUnknown T n).desc = n.desc := by
  unfold resolveUnknown
  split
  · split
    · split <;> rfl
    · rfl
  · rfl

theorem resolveUnknown_flags (T : Tables) (n : Node) : (resolveUnknown T n).flags = n.flags := by
  unfold resolveUnknown
  split
  · split
    · split <;> rfl
    · rfl
  · rfl

@[simp] theorem dropPlaceholder_desc (n : Node) : (dropPlaceholder n).desc = n.desc := by
  unfold dropPlaceholder; split <;> rfl

@[simp] theorem dropPlaceholder_flags (n : Node) : (dropPlaceholder n).flags = n.flags := by
  unfold dropPlaceholder; split <;> rfl

theorem replicaOf_desc (T : Tables) (extra : Bool) (body : List Node) (j : Nat) :
    (replicaOf T extra body j).map (·.desc) = body.map (·.desc) := by
  unfold replicaOf
  simp [List.map_map, Function.comp_def, resolveUnknown_desc]

theorem replicas_desc (T : Tables) (extra : Bool) (body : List Node) (count : Nat) :
    (replicas T extra body count).map (·.desc) = (List.replicate count (body.map (·.desc))).flatten := by
  unfold replicas
  induction count with
  | zero => simp
  | succ k ih =>
    rw [List.range_succ, List.flatMap_append, List.map_append, ih, List.replicate_succ']
    simp [replicaOf_desc]

theorem mem_replicas {T : Tables} {extra : Bool} {body : List Node} {count : Nat} {n : Node}
    (h : n ∈ replicas T extra body count) :
    ∃ m ∈ body, n.desc = m.desc ∧
      n.flags = { m.flags with skipped := false, class33 := m.flags.class33 || extra } := by
  unfold replicas replicaOf at h
  simp only [List.mem_flatMap, List.mem_map] at h
  obtain ⟨j, _, m, hm, rfl⟩ := h
  exact ⟨m, hm, (dropPlaceholder_desc _).trans (resolveUnknown_desc T m), by
    simp only [dropPlaceholder_flags, resolveUnknown_flags]⟩

theorem replicas_fresh (T : Tables) (extra : Bool) (body : List Node) (count : Nat)
    (h : ∀ n ∈ body, Fresh n) : ∀ n ∈ replicas T extra body count, Fresh n := by
  intro n hn
  obtain ⟨m, hm, _, hf⟩ := mem_replicas hn
  exact ⟨by rw [hf], by rw [hf]; exact (h m hm).2⟩

theorem mkNode_desc (T : Tables) (d : Nat) : (mkNode T d).desc = d := by
  unfold mkNode; split <;> rfl

theorem mkNode_fresh (T : Tables) (d : Nat) : Fresh (mkNode T d) := by
  unfold mkNode Fresh; split <;> simp

theorem mkNodes_desc (T : Tables) (ds : List Nat) : (ds.map (mkNode T)).map (·.desc) = ds := by
  rw [List.map_map]
  exact (List.map_congr_left fun d _ => mkNode_desc T d).trans (List.map_id ds)

theorem mkNodes_fresh (T : Tables) (ds : List Nat) : ∀ n ∈ ds.map (mkNode T), Fresh n := by
  intro n hn
  obtain ⟨d, _, rfl⟩ := List.mem_map.1 hn
  exact mkNode_fresh T d

theorem memberNodes_eq (T : Tables) : ∀ (ms : List Nat) (prev : Option Nat) (ns : List Node),
    memberNodes T prev ms = some ns → ns = ms.map (mkNode T)
  | [], _, _, h => by cases h; rfl
  | c :: cs, _, ns, h => by
    unfold memberNodes at h
    rcases ite_eq_cases h with ⟨_, h⟩ | ⟨_, h⟩
    · cases hr : memberNodes T (some c) cs with
      | none => rw [hr] at h; cases h
      | some r =>
        rw [hr] at h
        cases h
        rw [memberNodes_eq T cs _ r hr]
        rfl
    · cases h

theorem assignDescriptors_desc (T : Tables) (flags : Nat) (body : List Node) :
    (assignDescriptors T flags body).map (·.desc) = body.map (·.desc) := by
  unfold assignDescriptors
  rw [List.map_map]
  refine List.map_congr_left fun n _ => ?_
  dsimp only [Function.comp]
  split
  · rfl
  · exact resolveUnknown_desc T n

theorem assignDescriptors_zero_skipped (T : Tables) (body : List Node) (h : ∀ n ∈ body, Fresh n) :
    ∀ n ∈ assignDescriptors T 0 body, n.flags.skipped = false := by
  intro n hn
  unfold assignDescriptors at hn
  simp [hasFlag, OP_EXPAND_DELAY_REPL] at hn
  obtain ⟨m, hm, rfl⟩ := hn
  rw [resolveUnknown_flags]; exact (h m hm).1

theorem except_bind_ok {ε α β : Type} (x : Except ε α) (f : α → Except ε β) (b : β)
    (h : (x >>= f) = .ok b) : ∃ a, x = .ok a ∧ f a = .ok b := by
  cases x with
  | error e => simp [bind, Except.bind] at h
  | ok a => exact ⟨a, rfl, by simpa [bind, Except.bind] using h⟩

theorem except_map_ok {ε α β : Type} (x : Except ε α) (f : α → β) (b : β)
    (h : (x.map f) = .ok b) : ∃ a, x = .ok a ∧ f a = b := by
  cases x with
  | error e => simp [Except.map] at h
  | ok a => exact ⟨a, rfl, by simpa [Except.map] using h⟩

theorem fresh_take {ns : List Node} (h : ∀ n ∈ ns, Fresh n) (k : Nat) : ∀ n ∈ ns.take k, Fresh n :=
  fun n hn => h n (List.mem_of_mem_take hn)

theorem fresh_drop {ns : List Node} (h : ∀ n ∈ ns, Fresh n) (k : Nat) : ∀ n ∈ ns.drop k, Fresh n :=
  fun n hn => h n (List.mem_of_mem_drop hn)

/-- the node once `bufr_expand_list` has dealt with it -/
def Node.done (n : Node) : Node := { n with flags := { n.flags with expanded := true, skipped := true } }

/-- the class 31 factor as the expansion leaves it: a missing or negative count becomes 0
(`bufr_value_set_int32(value, 0)`), and the node is flagged -/
def factorNode (c31 : Node) : Node :=
  let value0 : Int := if c31.hasVal then c31.ival else -1
  let c31v : Node := { c31 with val := if value0 < 0 then
                         (match c31.val with | .none => Val.i32 0 | v => v.setInt32 0) else c31.val }
  { c31v with flags := { c31v.flags with class31 := true } }

/-- the number of replications the factor stands for -/
def replCount (c31 : Node) : Int :=
  let value0 : Int := if c31.hasVal then c31.ival else -1
  let value : Int := if value0 < 0 then 0 else value0
  let rep0 := solveReplication value (Desc.y c31.desc)
  if rep0 < 0 then 0 else rep0

/-- `bufr_repl_descriptors` flags the replicas of a class 33 element that is replicated alone -/
def extraOf (body : List Node) : Bool :=
  match body with
  | [b] => decide (Desc.f b.desc = 0 ∧ Desc.x b.desc = 33)
  | _ => false

/-- the options `bufr_repl_descriptors` expands the replicas with -/
def dropIgnore (flags : Nat) : Nat := if hasFlag flags OP_ZDRC_IGNORE then flags - OP_ZDRC_IGNORE else flags

/-- `Expands T flags ns r e`: the list `ns` expands to `r` with `*errflg = e`.  One constructor per
branch of `bufr_expand_list`, the detours through `bufr_repl_descriptors` and `bufr_expand_desc`
inlined; `Node.done`, `factorNode`, `replCount`, `extraOf` and `dropIgnore` above give names to `let`s of those
functions, so each branch fits its constructor by unfolding.  Neither the recursion bound nor the Section 4 guard occur: they only decide whether there is
a result (`expandList_sound`), so what is true of every result is proved by induction on this relation. -/
inductive Expands (T : Tables) : Nat → List Node → List Node → Bool → Prop
  | nil {flags} : Expands T flags [] [] false
  | kept {flags n rest r e} : n.skipped ∨ n.expanded → Expands T flags rest r e →
      Expands T flags (n :: rest) (n :: r) e
  | fixed {flags n rest sub e1 r e2} : ¬ (n.skipped ∨ n.expanded) → Desc.f n.desc = 1 → Desc.y n.desc > 0 →
      ¬ rest.length < Desc.x n.desc →
      Expands T (dropIgnore flags)
        (replicas T (extraOf (rest.take (Desc.x n.desc))) (rest.take (Desc.x n.desc)) (Desc.y n.desc)) sub e1 →
      Expands T flags (rest.drop (Desc.x n.desc)) r e2 →
      Expands T flags (n :: rest) (n.done :: sub ++ r) (e1 || e2)
  | lone {flags n} : ¬ (n.skipped ∨ n.expanded) → Desc.f n.desc = 1 → ¬ Desc.y n.desc > 0 →
      Expands T flags [n] [n.done] true
  | delayed {flags n c31 rest sub e1 r e2} : ¬ (n.skipped ∨ n.expanded) → Desc.f n.desc = 1 → ¬ Desc.y n.desc > 0 →
      Desc.f c31.desc = 0 ∧ Desc.x c31.desc = 31 →
      replCount c31 > 0 ∧ hasFlag flags OP_EXPAND_DELAY_REPL → ¬ rest.length < Desc.x n.desc →
      Expands T (dropIgnore flags)
        (replicas T (extraOf (rest.take (Desc.x n.desc))) (rest.take (Desc.x n.desc)) (replCount c31).toNat) sub e1 →
      Expands T flags (rest.drop (Desc.x n.desc)) r e2 →
      Expands T flags (n :: c31 :: rest)
        (n.done :: { factorNode c31 with flags := { (factorNode c31).flags with expanded := true } } :: sub ++ r) (e1 || e2)
  | deferred {flags n c31 rest r e} : ¬ (n.skipped ∨ n.expanded) → Desc.f n.desc = 1 → ¬ Desc.y n.desc > 0 →
      Desc.f c31.desc = 0 ∧ Desc.x c31.desc = 31 →
      ¬ (replCount c31 > 0 ∧ hasFlag flags OP_EXPAND_DELAY_REPL) →
      Expands T flags (rest.drop (Desc.x n.desc)) r e →
      Expands T flags (n :: c31 :: rest)
        (n :: factorNode c31 :: assignDescriptors T flags (rest.take (Desc.x n.desc)) ++ r) e
  | noFactor {flags n c rest r e} : ¬ (n.skipped ∨ n.expanded) → Desc.f n.desc = 1 → ¬ Desc.y n.desc > 0 →
      ¬ (Desc.f c.desc = 0 ∧ Desc.x c.desc = 31) → Expands T flags (c :: rest) r e →
      Expands T flags (n :: c :: rest) r true
  | seq {flags n rest ent nodes sub e1 r e2} : ¬ (n.skipped ∨ n.expanded) → Desc.f n.desc = 3 →
      T.fetchD n.desc = some ent → memberNodes T none ent.members = some nodes →
      Expands T flags nodes sub e1 → Expands T flags rest r e2 →
      Expands T flags (n :: rest) (n.done :: sub ++ r) (e1 || e2)
  | elem {flags n rest r e} : ¬ (n.skipped ∨ n.expanded) → ¬ Desc.f n.desc = 1 → ¬ Desc.f n.desc = 3 →
      Expands T flags rest r e →
      Expands T flags (n :: rest)
        ({ n with flags := { n.flags with class31 := n.flags.class31 || decide (Desc.f n.desc = 0 ∧ Desc.x n.desc = 31) } } :: r) e

theorem expandList_of_replDescriptors (T : Tables) (f flags : Nat) (s4 : Option Nat) (body : List Node) (count : Nat)
    (p : List Node × Bool) (h : replDescriptors T (f + 1) flags s4 body count = .ok p) :
    expandList T f (dropIgnore flags) s4 (replicas T (extraOf body) body count) = .ok p := by
  unfold replDescriptors at h
  exact (ite_eq_neg h nofun).2

theorem replDescriptors_expands {T : Tables} {f : Nat}
    (ih : ∀ m < f, ∀ {flags s4 ns r e}, expandList T m flags s4 ns = .ok (r, e) → Expands T flags ns r e)
    {flags : Nat} {s4 : Option Nat} {body : List Node} {count : Nat} {r : List Node} {e : Bool}
    (h : replDescriptors T f flags s4 body count = .ok (r, e)) :
    Expands T (dropIgnore flags) (replicas T (extraOf body) body count) r e := by
  obtain _ | f := f
  · simp [replDescriptors] at h
  · exact ih f (Nat.lt_succ_self f) (expandList_of_replDescriptors T f flags s4 body count _ h)

theorem expandDesc_cases (T : Tables) (flags : Nat) (s4 : Option Nat) (d : Nat) :
    (∀ f, expandDesc T (f + 1) flags s4 d = .error .null) ∨
    ∃ ent nodes, Desc.f d = 3 ∧ T.fetchD d = some ent ∧ memberNodes T none ent.members = some nodes ∧
      ∀ f, expandDesc T (f + 1) flags s4 d = expandList T f flags s4 nodes := by
  by_cases h3 : Desc.f d ≠ 3
  · exact Or.inl fun f => by rw [expandDesc, if_pos h3]
  cases hfd : T.fetchD d with
  | none => exact Or.inl fun f => by simp only [expandDesc, if_neg h3, hfd]
  | some ent =>
    by_cases hc : tabledCircular T d = true
    · exact Or.inl fun f => by simp only [expandDesc, if_neg h3, hfd, if_pos hc]
    by_cases hs : (!spansClosed ent.members) = true
    · exact Or.inl fun f => by simp only [expandDesc, if_neg h3, hfd, if_neg hc, if_pos hs]
    cases hm : memberNodes T none ent.members with
    | none => exact Or.inl fun f => by simp only [expandDesc, if_neg h3, hfd, if_neg hc, if_neg hs, hm]
    | some nodes =>
      exact Or.inr ⟨ent, nodes, by omega, rfl, hm, fun f => by
        simp only [expandDesc, if_neg h3, hfd, if_neg hc, if_neg hs, hm]⟩

theorem expandList_sound {T : Tables} : ∀ {f flags : Nat} {s4 : Option Nat} {ns r : List Node} {e : Bool},
    expandList T f flags s4 ns = .ok (r, e) → Expands T flags ns r e := by
  intro f
  induction f using Nat.strongRecOn with
  | ind f ih =>
  intro flags s4 ns r e h
  obtain _ | f := f
  · simp [expandList] at h
  have ihL : ∀ {flags s4 ns r e}, expandList T f flags s4 ns = .ok (r, e) → Expands T flags ns r e :=
    ih f (Nat.lt_succ_self f)
  have ihR : ∀ {flags s4 body count r e}, replDescriptors T f flags s4 body count = .ok (r, e) →
      Expands T (dropIgnore flags) (replicas T (extraOf body) body count) r e :=
    replDescriptors_expands fun m hm => ih m (Nat.lt_succ_of_lt hm)
  cases ns with
  | nil =>
    simp only [expandList, Except.ok.injEq, Prod.mk.injEq] at h
    obtain ⟨rfl, rfl⟩ := h
    exact .nil
  | cons n rest =>
    rw [expandList] at h
    rcases ite_eq_cases h with ⟨hk, h⟩ | ⟨hk, h⟩
    · obtain ⟨⟨r2, e2⟩, hr, h⟩ := except_map_ok _ _ _ h
      cases h
      exact .kept hk (ihL hr)
    rcases ite_eq_cases h with ⟨h1, h⟩ | ⟨h1, h⟩
    · rcases ite_eq_cases h with ⟨hy, h⟩ | ⟨hy, h⟩
      · rcases ite_eq_cases h with ⟨_, h⟩ | ⟨hlen, h⟩
        · cases h
        obtain ⟨⟨sub, e1⟩, hs, h⟩ := except_bind_ok _ _ _ h
        obtain ⟨⟨r2, e2⟩, hr, h⟩ := except_bind_ok _ _ _ h
        cases h
        exact .fixed hk h1 hy hlen (ihR hs) (ihL hr)
      cases rest with
      | nil => cases h; exact .lone hk h1 hy
      | cons c31 rest' =>
        rcases ite_eq_cases h with ⟨hc, h⟩ | ⟨hc, h⟩
        · rcases ite_eq_cases h with ⟨hrep, h⟩ | ⟨hrep, h⟩
          · rcases ite_eq_cases h with ⟨_, h⟩ | ⟨hlen, h⟩
            · cases h
            obtain ⟨⟨sub, e1⟩, hs, h⟩ := except_bind_ok _ _ _ h
            obtain ⟨⟨r2, e2⟩, hr, h⟩ := except_bind_ok _ _ _ h
            cases h
            exact .delayed hk h1 hy hc hrep hlen (ihR hs) (ihL hr)
          obtain ⟨⟨r2, e2⟩, hr, h⟩ := except_bind_ok _ _ _ h
          cases h
          exact .deferred hk h1 hy hc hrep (ihL hr)
        obtain ⟨⟨r2, e2⟩, hr, h⟩ := except_map_ok _ _ _ h
        cases h
        exact .noFactor hk h1 hy hc (ihL hr)
    rcases ite_eq_cases h with ⟨h3, h⟩ | ⟨h3, h⟩
    · obtain ⟨⟨sub, e1⟩, hs, h⟩ := except_bind_ok _ _ _ h
      obtain ⟨⟨r2, e2⟩, hr, h⟩ := except_bind_ok _ _ _ h
      cases h
      obtain _ | f := f
      · simp [expandDesc] at hs
      rcases expandDesc_cases T flags s4 n.desc with hn | ⟨ent, nodes, _, hfd, hm, hx⟩
      · rw [hn] at hs; cases hs
      rw [hx] at hs
      exact .seq hk h3 hfd hm (ih f (by omega) hs) (ihL hr)
    obtain ⟨⟨r2, e2⟩, hr, h⟩ := except_map_ok _ _ _ h
    cases h
    exact .elem hk h1 h3 (ihL hr)

theorem expandSequence_ok {T : Tables} {f flags : Nat} {ns r : List Node}
    (h : expandSequence T f flags ns = .ok r) : expandList T f flags none ns = .ok (r, false) := by
  unfold expandSequence at h
  split at h
  · next hr => cases h; exact hr
  · cases h
  · cases h

theorem replDescriptors_sound {T : Tables} {f flags : Nat} {s4 : Option Nat} {body : List Node} {count : Nat}
    {r : List Node} {e : Bool} (h : replDescriptors T f flags s4 body count = .ok (r, e)) :
    Expands T (dropIgnore flags) (replicas T (extraOf body) body count) r e :=
  replDescriptors_expands (fun _ _ => expandList_sound) h

theorem items_done (n : Node) (l : List Node) : items (n.done :: l) = items l := by
  rw [items_cons]; rfl

/-- with `flags = 0` (what `bufr_finalize_template` asks for) and no error flagged, the expansion of fresh nodes,
read without its placeholders, is the regulation's -/
theorem Expands.static {T : Tables} {flags : Nat} {ns r : List Node} {e : Bool} (h : Expands T flags ns r e) :
    flags = 0 → e = false → (∀ n ∈ ns, Fresh n) → Static T (ns.map (·.desc)) (items r) := by
  induction h with
  | nil => intro _ _ _; exact Static.nil
  | @kept _ n _ _ _ hk _ _ =>
    intro _ _ hf
    have hn := hf n List.mem_cons_self
    rcases hk with hk | hk
    · rw [Node.skipped, hn.1] at hk; cases hk
    · rw [Node.expanded, hn.2] at hk; cases hk
  | @fixed _ n rest _ _ _ _ _ h1 hy hlen _ _ ih1 ih2 =>
    intro hfl he hf
    subst hfl
    obtain ⟨rfl, rfl⟩ := Bool.or_eq_false_iff.1 he
    have hrest : ∀ m ∈ rest, Fresh m := fun m hm => hf m (List.mem_cons_of_mem _ hm)
    have s1 := ih1 rfl rfl (replicas_fresh T _ _ _ (fresh_take hrest _))
    have s2 := ih2 rfl rfl (fresh_drop hrest _)
    rw [replicas_desc, List.map_take] at s1
    rw [List.map_drop] at s2
    rw [List.cons_append, items_done, items_append]
    exact Static.fixed n.desc (rest.map (·.desc)) _ _ h1 hy (by rw [List.length_map]; omega) s1 s2
  | lone => intro _ he; cases he
  | delayed _ _ _ _ hrep =>
    intro hfl
    subst hfl
    exact absurd hrep.2 (by decide)
  | @deferred _ n c31 rest _ _ _ h1 hy hc _ _ ih =>
    intro hfl he hf
    subst hfl
    have hn := hf n List.mem_cons_self
    have hrest : ∀ m ∈ rest, Fresh m := fun m hm => hf m (List.mem_cons_of_mem _ (List.mem_cons_of_mem _ hm))
    have hc31 : (factorNode c31).flags.skipped = false := (hf c31 (List.mem_cons_of_mem _ List.mem_cons_self)).1
    have s2 := ih rfl he (fresh_drop hrest _)
    rw [List.map_drop] at s2
    rw [List.cons_append, List.cons_append, items_cons, hn.1, items_cons, hc31, items_append,
      items_of_not_skipped _ (assignDescriptors_zero_skipped T _ (fresh_take hrest _)), assignDescriptors_desc, List.map_take]
    exact Static.delayed n.desc c31.desc (rest.map (·.desc)) _ h1 (by omega) hc s2
  | noFactor => intro _ he; cases he
  | @seq _ n rest ent nodes _ _ _ _ _ h3 hfd hm _ _ ih1 ih2 =>
    intro hfl he hf
    obtain ⟨rfl, rfl⟩ := Bool.or_eq_false_iff.1 he
    cases memberNodes_eq T _ _ _ hm
    have s1 := ih1 hfl rfl (mkNodes_fresh T _)
    rw [mkNodes_desc] at s1
    rw [List.cons_append, items_done, items_append]
    exact Static.seq n.desc _ ent _ _ h3 hfd s1 (ih2 hfl rfl (fun m hm => hf m (List.mem_cons_of_mem _ hm)))
  | @elem _ n rest _ _ _ h1 h3 _ ih =>
    intro hfl he hf
    rw [items_cons]
    have hn : n.flags.skipped = false := (hf n List.mem_cons_self).1
    simp only [hn, Bool.false_eq_true, if_false]
    exact Static.elem n.desc _ _ ⟨h1, h3⟩ (ih hfl he (fun m hm => hf m (List.mem_cons_of_mem _ hm)))

end Bufr
