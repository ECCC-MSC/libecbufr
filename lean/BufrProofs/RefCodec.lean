import BufrProofs.Codec
import BufrSpec.RefDecode
/-
  BufrProofs.RefCodec — the field readers of the reference decoder (`BufrSpec.RefDecode`) on bit strings
  that start with the field (C03, C04), and `LayoutOf`, the relation between a layout handed to the reference decoder and an
  encoder node under which C03 applies the reference decoder to what the library's encoder writes.  That the
  layout `BufrSpec.Ops` derives for the node's descriptor stands in this relation is assumed there, not proved.
-/
namespace Bufr
open Bufr Bufr.Spec

theorem takeBits_view (n v : Nat) (rest : List Bool) :
    takeBits n (bitsMSB n v ++ rest) = some (v % 2^n, rest) := by
  unfold takeBits
  rw [if_neg (by simp)]
  rw [List.take_append_of_le_length (by simp), List.take_of_length_le (by simp),
      List.drop_append_of_le_length (by simp), List.drop_of_length_le (by simp), ofBitsMSB_bitsMSB]
  simp

theorem takeIncs_view (k : Nat) : ∀ (incs : List Nat) (rest : List Bool),
    takeIncs k incs.length (incs.flatMap (bitsMSB k) ++ rest) = some (incs.map (· % 2^k), rest) := by
  intro incs
  induction incs with
  | nil => intro rest; simp [takeIncs]
  | cons v vs ih =>
    intro rest
    simp only [List.length_cons, takeIncs, List.flatMap_cons, List.append_assoc, takeBits_view]
    simp [ih]

theorem takeOctets_view : ∀ (cs : List Nat) (rest : List Bool),
    takeOctets cs.length (cs.flatMap (bitsMSB 8) ++ rest) = some (cs.map (· % 256), rest) := by
  intro cs
  induction cs with
  | nil => intro rest; simp [takeOctets]
  | cons c cs ih =>
    intro rest
    simp only [List.length_cons, takeOctets, List.flatMap_cons, List.append_assoc, takeBits_view]
    simp [ih]

/-- the reference decoder's view of an encoder node: the layout FM 94 gives its descriptor -/
structure LayoutOf (l : Layout) (m : Node) : Prop where
  data : dataKind l.kind = true
  width : l.width = m.enc.nbits
  af : l.af = if m.enc.afNbits > 0 ∧ m.afW > 0 then m.afW else 0
  kind : l.kind = .ccitt ↔ m.enc.type = .ccitt
  typ : m.enc.type = .ccitt ∨ m.enc.type = .numeric ∨ m.enc.type = .codetable ∨ m.enc.type = .flagtable ∨
        m.enc.type = .chngRef
  octets : m.enc.type = .ccitt → m.enc.nbits % 8 = 0 ∧ 0 ≤ m.enc.nbits

end Bufr
