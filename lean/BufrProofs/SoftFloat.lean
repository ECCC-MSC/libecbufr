import BufrModel.SoftFloat
import Mathlib.Tactic.Linarith
import Mathlib.Tactic.Positivity
import Mathlib.Tactic.Ring
import Mathlib.Tactic.NormNum
import Mathlib.Tactic.FieldSimp
import Mathlib.Data.Rat.Floor
/-
  The laws of the soft-float, for the executable definitions of BufrModel/SoftFloat.lean
  (`fl_err`, `fl_exact`, C `round` and truncation), and what follows from them for a value that is rounded once or twice and scaled by a multiplier
  `P` (a power of ten in the callers): the arithmetic of the scaling code, at any precision.

  Monotonicity of `fl` is not proved: every order fact the C08 proofs need follows from `fl_err`
  because neighbouring grid points are 2^20 ulps apart, and from `fl_ge_pow2`.
-/
namespace Bufr.SF

theorem floor_eq (x : ℚ) : x.floor = ⌊x⌋ := rfl

theorem abs_eq_ite (q : ℚ) : (if q < 0 then -q else q) = |q| := by
  split_ifs with h
  · exact (abs_of_neg h).symm
  · exact (abs_of_nonneg (not_lt.mp h)).symm

/-- the `if` by which `pow2` and `pow10r` avoid `zpow` is the integer power -/
theorem natPow_eq_zpow (b : ℕ) (e : ℤ) :
    (if 0 ≤ e then ((b ^ e.toNat : ℕ) : ℚ) else 1 / ((b ^ (-e).toNat : ℕ) : ℚ)) = (b:ℚ) ^ e := by
  split_ifs with h
  · obtain ⟨n, rfl⟩ := Int.eq_ofNat_of_zero_le h
    simp
  · obtain ⟨n, hn⟩ := Int.eq_ofNat_of_zero_le (show 0 ≤ -e by omega)
    obtain rfl : e = -(n:ℤ) := by omega
    simp

theorem pow2_eq (e : ℤ) : pow2 e = (2:ℚ) ^ e := natPow_eq_zpow 2 e

theorem pow10r_eq (s : ℤ) : pow10r s = (10:ℚ) ^ s := natPow_eq_zpow 10 s

theorem zpow2_pos (e : ℤ) : (0 : ℚ) < 2 ^ e := zpow_pos (by norm_num) e

theorem pow2_pos (e : ℤ) : 0 < pow2 e := by
  rw [pow2_eq]
  exact zpow2_pos e

theorem zpow2_le {a b : ℤ} (h : a ≤ b) : (2 : ℚ) ^ a ≤ 2 ^ b := zpow_le_zpow_right₀ (by norm_num) h

theorem zpow2_lt {a b : ℤ} (h : a < b) : (2 : ℚ) ^ a < 2 ^ b := zpow_lt_zpow_right₀ (by norm_num) h

theorem zpow2_lt_iff {a b : ℤ} : (2 : ℚ) ^ a < 2 ^ b ↔ a < b := zpow_lt_zpow_iff_right₀ (by norm_num)

theorem zpow2_add (a b : ℤ) : (2 : ℚ) ^ (a + b) = 2 ^ a * 2 ^ b := zpow_add₀ (by norm_num) a b

theorem zpow2_sub (a b : ℤ) : (2 : ℚ) ^ (a - b) = 2 ^ a / 2 ^ b := zpow_sub₀ (by norm_num) a b

theorem natLog2_bounds {n : ℕ} (h : n ≠ 0) :
    (2:ℚ) ^ (n.log2 : ℤ) ≤ n ∧ (n:ℚ) < (2:ℚ) ^ ((n.log2 : ℤ) + 1) := by
  constructor
  · rw [zpow_natCast]; exact_mod_cast Nat.log2_self_le h
  · rw [show ((n.log2 : ℤ) + 1) = ((n.log2 + 1 : ℕ) : ℤ) by push_cast; ring, zpow_natCast]
    exact_mod_cast @Nat.lt_log2_self n

theorem ilog2_spec (q : ℚ) (hq : q ≠ 0) :
    (2:ℚ) ^ (ilog2 q) ≤ |q| ∧ |q| < (2:ℚ) ^ (ilog2 q + 1) := by
  have two : (2:ℚ) ≠ 0 := by norm_num
  have ha0 : q.num.natAbs ≠ 0 := Int.natAbs_ne_zero.mpr (Rat.num_ne_zero.mpr hq)
  have hbQ : (0:ℚ) < q.den := by exact_mod_cast q.den_pos
  have habs : |q| = (q.num.natAbs : ℚ) / q.den := by
    conv_lhs => rw [← Rat.num_div_den q]
    rw [abs_div, abs_of_pos hbQ, Nat.cast_natAbs, Int.cast_abs]
  obtain ⟨la1, la2⟩ := natLog2_bounds ha0
  obtain ⟨lb1, lb2⟩ := natLog2_bounds q.den_nz
  have hdef : ilog2 q = if pow2 ((q.num.natAbs.log2 : ℤ) - (q.den.log2 : ℤ)) * (q.den : ℚ)
      ≤ (q.num.natAbs : ℚ) then (q.num.natAbs.log2 : ℤ) - (q.den.log2 : ℤ)
      else (q.num.natAbs.log2 : ℤ) - (q.den.log2 : ℤ) - 1 := rfl
  rw [hdef, habs, pow2_eq]
  generalize (q.num.natAbs : ℚ) = a at la1 la2 ⊢
  generalize (q.den : ℚ) = b at lb1 lb2 hbQ ⊢
  generalize (q.num.natAbs.log2 : ℤ) = la at la1 la2 ⊢
  generalize (q.den.log2 : ℤ) = lb at lb1 lb2 ⊢
  -- 2^(la-lb-1) < a/b < 2^(la-lb+1), and the test decides on which side of 2^(la-lb)
  split_ifs with h
  · refine ⟨(le_div_iff₀ hbQ).mpr h, (div_lt_iff₀ hbQ).mpr ?_⟩
    calc a < (2:ℚ) ^ (la + 1) := la2
      _ = (2:ℚ) ^ (la - lb + 1) * (2:ℚ) ^ lb := by rw [← zpow_add₀ two]; congr 1; ring
      _ ≤ (2:ℚ) ^ (la - lb + 1) * b := mul_le_mul_of_nonneg_left lb1 (zpow2_pos _).le
  · refine ⟨(le_div_iff₀ hbQ).mpr ?_, ?_⟩
    · calc (2:ℚ) ^ (la - lb - 1) * b ≤ (2:ℚ) ^ (la - lb - 1) * (2:ℚ) ^ (lb + 1) :=
            mul_le_mul_of_nonneg_left lb2.le (zpow2_pos _).le
        _ = (2:ℚ) ^ la := by rw [← zpow_add₀ two]; congr 1; ring
        _ ≤ a := la1
    · rw [sub_add_cancel, div_lt_iff₀ hbQ]; exact not_le.mp h

theorem ilog2_spec_pos (q : ℚ) (hq : 0 < q) : (2:ℚ) ^ ilog2 q ≤ q ∧ q < (2:ℚ) ^ (ilog2 q + 1) := by
  have := ilog2_spec q hq.ne'
  rwa [abs_of_pos hq] at this

theorem ilog2_unique (q : ℚ) (e : ℤ) (h1 : (2:ℚ) ^ e ≤ q) (h2 : q < (2:ℚ) ^ (e + 1)) : ilog2 q = e := by
  obtain ⟨a, b⟩ := ilog2_spec_pos q (lt_of_lt_of_le (zpow2_pos e) h1)
  have c1 : ilog2 q < e + 1 := zpow2_lt_iff.mp (lt_of_le_of_lt a h2)
  have c2 : e < ilog2 q + 1 := zpow2_lt_iff.mp (lt_of_le_of_lt h1 b)
  omega

theorem rne_cases (x : ℚ) :
    (rne x = ⌊x⌋ ∧ x - (⌊x⌋ : ℤ) ≤ 1 / 2) ∨ (rne x = ⌊x⌋ + 1 ∧ 1 / 2 ≤ x - (⌊x⌋ : ℤ)) := by
  have hdef : rne x = if x - ((⌊x⌋ : ℤ) : ℚ) < 1/2 then ⌊x⌋ else
      if 1/2 < x - ((⌊x⌋ : ℤ) : ℚ) then ⌊x⌋ + 1 else if ⌊x⌋ % 2 = 0 then ⌊x⌋ else ⌊x⌋ + 1 := rfl
  rw [hdef]
  split_ifs with a b c
  · exact Or.inl ⟨rfl, a.le⟩
  · exact Or.inr ⟨rfl, b.le⟩
  · exact Or.inl ⟨rfl, not_lt.mp b⟩
  · exact Or.inr ⟨rfl, not_lt.mp a⟩

theorem rne_err (x : ℚ) : |(rne x : ℚ) - x| ≤ 1/2 := by
  have h1 := Int.floor_le x
  have h2 := Int.lt_floor_add_one x
  rcases rne_cases x with ⟨h, hr⟩ | ⟨h, hr⟩
  · rw [h, abs_le]; constructor <;> linarith
  · rw [h, abs_le]; push_cast; constructor <;> linarith

theorem rne_int (z : ℤ) : rne (z : ℚ) = z := by
  unfold rne
  simp [floor_eq]

theorem rne_ge_of_int_le (x : ℚ) (z : ℤ) (h : (z:ℚ) ≤ x) : z ≤ rne x := by
  have hf : z ≤ ⌊x⌋ := Int.le_floor.mpr h
  rcases rne_cases x with ⟨h, -⟩ | ⟨h, -⟩ <;> omega

theorem rne_le_of_le_int (x : ℚ) (z : ℤ) (h : x ≤ (z:ℚ)) : rne x ≤ z := by
  by_contra hc
  have h1 : (z : ℚ) + 1 ≤ rne x := by exact_mod_cast Int.add_one_le_iff.mpr (not_le.mp hc)
  linarith [(abs_le.mp (rne_err x)).2]

theorem rne_near (x : ℚ) (n : ℤ) (h : |x - n| < 1 / 2) : rne x = n := by
  have h1 : |((rne x - n : ℤ) : ℚ)| < 1 := by
    push_cast
    linarith [rne_err x, abs_sub_le ((rne x : ℤ) : ℚ) x (n : ℚ)]
  have h2 := abs_lt.mp (show |rne x - n| < 1 by exact_mod_cast h1)
  omega

theorem fl_zero (p : ℕ) : fl p 0 = 0 := by simp [fl]

theorem fl_eq (p : ℕ) {q : ℚ} (hq : q ≠ 0) :
    fl p q = (rne (q / (2:ℚ) ^ (ilog2 q - ((p:ℤ) - 1))) : ℚ) * (2:ℚ) ^ (ilog2 q - ((p:ℤ) - 1)) := by
  unfold fl
  rw [if_neg hq]
  simp only [pow2_eq]

theorem fl_err (p : ℕ) (q : ℚ) : |fl p q - q| ≤ |q| * (2:ℚ) ^ (-(p:ℤ)) := by
  by_cases h0 : q = 0
  · simp [h0, fl_zero]
  rw [fl_eq p h0]
  have hlo : (2:ℚ) ^ ilog2 q ≤ |q| := (ilog2_spec q h0).1
  generalize ilog2 q = e at hlo ⊢
  have hscpos : 0 < (2:ℚ) ^ (e - ((p:ℤ) - 1)) := zpow2_pos _
  -- half a unit of the scale is 2^e · 2^(−p)
  have h4 : 1/2 * (2:ℚ) ^ (e - ((p:ℤ) - 1)) = (2:ℚ)^e * (2:ℚ)^(-(p:ℤ)) := by
    rw [← zpow_add₀ (by norm_num : (2:ℚ) ≠ 0), show e - ((p:ℤ) - 1) = (e + -(p:ℤ)) + 1 by ring,
      zpow_add_one₀ (by norm_num : (2:ℚ) ≠ 0)]
    ring
  generalize (2:ℚ) ^ (e - ((p:ℤ) - 1)) = sc at hscpos h4 ⊢
  rw [show (rne (q / sc) : ℚ) * sc - q = ((rne (q / sc) : ℚ) - q / sc) * sc by field_simp,
    abs_mul, abs_of_pos hscpos]
  calc |(rne (q / sc) : ℚ) - q / sc| * sc ≤ 1/2 * sc :=
        mul_le_mul_of_nonneg_right (rne_err _) hscpos.le
    _ = (2:ℚ)^e * (2:ℚ)^(-(p:ℤ)) := h4
    _ ≤ |q| * (2:ℚ)^(-(p:ℤ)) := mul_le_mul_of_nonneg_right hlo (zpow2_pos _).le

theorem rne_scale_exact (m : ℤ) {k u : ℤ} (h : u ≤ k) :
    (rne ((m:ℚ) * (2:ℚ) ^ k / (2:ℚ) ^ u) : ℚ) * (2:ℚ) ^ u = (m:ℚ) * (2:ℚ) ^ k := by
  have two : (2:ℚ) ≠ 0 := by norm_num
  obtain ⟨d, hd⟩ := Int.eq_ofNat_of_zero_le (sub_nonneg.mpr h)
  have hdiv : (m:ℚ) * (2:ℚ) ^ k / (2:ℚ) ^ u = ((m * 2 ^ d : ℤ) : ℚ) := by
    rw [mul_div_assoc, ← zpow_sub₀ two, hd]
    push_cast
    rw [zpow_natCast]
  rw [hdiv, rne_int]
  push_cast
  rw [mul_assoc, ← zpow_natCast, ← hd, ← zpow_add₀ two, sub_add_cancel]

theorem fl_exact (p : ℕ) (m k : ℤ) (hm : |m| < 2 ^ p) :
    fl p ((m:ℚ) * (2:ℚ) ^ k) = (m:ℚ) * (2:ℚ) ^ k := by
  by_cases hm0 : m = 0
  · subst hm0; simp [fl]
  have two : (2:ℚ) ≠ 0 := by norm_num
  have hq : (m:ℚ) * (2:ℚ) ^ k ≠ 0 :=
    mul_ne_zero (by exact_mod_cast hm0) (zpow_ne_zero _ two)
  have hlo : (2:ℚ) ^ ilog2 ((m:ℚ) * (2:ℚ) ^ k) ≤ |(m:ℚ) * (2:ℚ) ^ k| := (ilog2_spec _ hq).1
  rw [fl_eq p hq]
  generalize ilog2 ((m:ℚ) * (2:ℚ) ^ k) = e at hlo ⊢
  -- 2^e ≤ |m|·2^k < 2^(p+k), so the scale divides 2^k
  have hlt : (2:ℚ) ^ e < (2:ℚ) ^ ((p:ℤ) + k) := by
    calc (2:ℚ) ^ e ≤ |(m:ℚ)| * (2:ℚ) ^ k := by
          rwa [abs_mul, abs_of_pos (zpow2_pos k)] at hlo
      _ < (2:ℚ) ^ (p:ℤ) * (2:ℚ) ^ k :=
          mul_lt_mul_of_pos_right (by rw [zpow_natCast]; exact_mod_cast hm) (zpow2_pos _)
      _ = (2:ℚ) ^ ((p:ℤ) + k) := (zpow_add₀ two _ _).symm
  have hek : e < (p:ℤ) + k := zpow2_lt_iff.mp hlt
  exact rne_scale_exact m (by omega)

/-- `10^n = 5^n · 2^n` is exact as soon as `5^n` fits the significand -/
theorem fl_ten_pow (p n : ℕ) (h : (5:ℤ) ^ n < 2 ^ p) : fl p ((10:ℚ) ^ n) = (10:ℚ) ^ n := by
  have h5 := fl_exact p ((5:ℤ) ^ n) (n:ℤ) (by rwa [abs_of_nonneg (by positivity)])
  have e : (((5:ℤ) ^ n : ℤ) : ℚ) * (2:ℚ) ^ (n:ℤ) = (10:ℚ) ^ n := by
    push_cast
    rw [zpow_natCast, ← mul_pow]; norm_num
  rwa [e] at h5

theorem fl_int (p : ℕ) (z : ℤ) (hz : |z| < 2 ^ p) : fl p (z : ℚ) = z := by
  have := fl_exact p z 0 hz
  simpa using this

theorem fl_int_nonneg (p : ℕ) {z : ℤ} (h0 : 0 ≤ z) (h : z < 2 ^ p) : fl p (z : ℚ) = z :=
  fl_int p z (by rwa [abs_of_nonneg h0])

theorem fl_nat (p : ℕ) (n : ℕ) (hz : n < 2 ^ p) : fl p (n : ℚ) = n := by
  have := fl_int p (n : ℤ) (by rw [abs_of_nonneg (by positivity)]; exact_mod_cast hz)
  simpa using this

theorem fl_idem (p : ℕ) (hp : 1 ≤ p) (q : ℚ) : fl p (fl p q) = fl p q := by
  by_cases hq : q = 0
  · subst hq; simp [fl_zero]
  have two : (2:ℚ) ≠ 0 := by norm_num
  rw [fl_eq p hq]
  set e := ilog2 q with he
  set j := e - ((p:ℤ) - 1) with hj
  set m := rne (q / (2:ℚ) ^ j) with hm
  have hsc : (0:ℚ) < (2:ℚ) ^ j := zpow2_pos _
  -- |q / sc| < 2^p
  have hhi : |q| < (2:ℚ) ^ (e + 1) := (ilog2_spec q hq).2
  have hdiv : |q / (2:ℚ) ^ j| < (2:ℚ) ^ (p:ℤ) := by
    rw [abs_div, abs_of_pos hsc, div_lt_iff₀ hsc, ← zpow_add₀ two]
    have : (p:ℤ) + j = e + 1 := by rw [hj]; ring
    rw [this]; exact hhi
  have hmle : |m| ≤ 2 ^ p := by
    have h1 := rne_err (q / (2:ℚ) ^ j)
    have h2 : |(m:ℚ)| < (2:ℚ) ^ (p:ℤ) + 1 / 2 := by
      have := abs_sub_abs_le_abs_sub (m:ℚ) (q / (2:ℚ) ^ j)
      linarith
    have h3 : |(m:ℚ)| < ((2 ^ p + 1 : ℤ) : ℚ) := by
      push_cast; rw [zpow_natCast] at h2; linarith
    have h4 : |m| < 2 ^ p + 1 := by
      have : ((|m| : ℤ) : ℚ) < ((2 ^ p + 1 : ℤ) : ℚ) := by rw [Int.cast_abs]; exact h3
      exact_mod_cast this
    omega
  rcases lt_or_eq_of_le hmle with hlt | heq
  · exact fl_exact p m j hlt
  · -- |m| = 2^p : m·2^j = ±1·2^(p+j)
    have h1p : |(1:ℤ)| < 2 ^ p := by
      simp; exact_mod_cast Nat.one_lt_two_pow (by omega : p ≠ 0)
    have key : ∀ s : ℤ, |s| < 2 ^ p → m = s * 2 ^ p → fl p ((m:ℚ) * (2:ℚ) ^ j) = (m:ℚ) * (2:ℚ) ^ j := by
      intro s hs h
      have : (m:ℚ) * (2:ℚ) ^ j = (s:ℚ) * (2:ℚ) ^ ((p:ℤ) + j) := by
        rw [h, zpow_add₀ two, zpow_natCast]; push_cast; ring
      rw [this]; exact fl_exact p s _ hs
    rcases abs_eq (by positivity : (0:ℤ) ≤ 2 ^ p) |>.mp heq with h | h
    · exact key 1 h1p (by rw [h]; ring)
    · exact key (-1) (by simpa using h1p) (by rw [h]; ring)

theorem fl_int_isInt (p : ℕ) (z : ℤ) : ∃ w : ℤ, fl p (z:ℚ) = w := by
  by_cases hz : |z| < 2 ^ p
  · exact ⟨z, fl_int p z hz⟩
  have hz0 : (z:ℚ) ≠ 0 := by
    intro h
    have : z = 0 := by exact_mod_cast h
    subst this; simp at hz
  rw [fl_eq p hz0]
  set e := ilog2 (z:ℚ) with he
  -- 2^p ≤ |z| < 2^(e+1)  ⇒  p ≤ e
  have hhi : |(z:ℚ)| < (2:ℚ) ^ (e + 1) := (ilog2_spec _ hz0).2
  have hlo : (2:ℚ) ^ (p:ℤ) ≤ |(z:ℚ)| := by
    rw [zpow_natCast, ← Int.cast_abs]
    exact_mod_cast not_lt.mp hz
  have hpe : (p:ℤ) < e + 1 :=
    zpow2_lt_iff.mp (lt_of_le_of_lt hlo hhi)
  obtain ⟨d, hd⟩ := Int.eq_ofNat_of_zero_le (show 0 ≤ e - ((p:ℤ) - 1) by omega)
  rw [hd, zpow_natCast]
  exact ⟨rne ((z:ℚ) / (2:ℚ) ^ d) * 2 ^ d, by push_cast; ring⟩

theorem fl_abs_le (p : ℕ) (q : ℚ) : |fl p q| ≤ |q| + |q| * (2:ℚ) ^ (-(p:ℤ)) := by
  have h := fl_err p q
  have := abs_sub_abs_le_abs_sub (fl p q) q
  linarith

theorem fl_le (p : ℕ) (q : ℚ) : fl p q ≤ q + |q| * (2:ℚ) ^ (-(p:ℤ)) := by
  have h := fl_err p q
  rw [abs_le] at h; linarith [h.2]

theorem fl_ge (p : ℕ) (q : ℚ) : q - |q| * (2:ℚ) ^ (-(p:ℤ)) ≤ fl p q := by
  have h := fl_err p q
  rw [abs_le] at h; linarith [h.1]

theorem fl_abs_rel (p : ℕ) (q : ℚ) :
    |q| * (1 - (2:ℚ) ^ (-(p:ℤ))) ≤ |fl p q| ∧ |fl p q| ≤ |q| * (1 + (2:ℚ) ^ (-(p:ℤ))) := by
  have h := fl_err p q
  rw [abs_sub_comm] at h
  constructor
  · linarith [abs_sub_abs_le_abs_sub q (fl p q)]
  · linarith [fl_abs_le p q]

theorem two_zpow_neg_le_one (p : ℕ) : (2:ℚ) ^ (-(p:ℤ)) ≤ 1 :=
  zpow_le_one_of_nonpos₀ (by norm_num) (by omega)

theorem two_zpow_neg_le_half {p : ℕ} (hp : 1 ≤ p) : (2:ℚ) ^ (-(p:ℤ)) ≤ 1 / 2 :=
  (zpow_le_zpow_right₀ (by norm_num) (by omega : -(p:ℤ) ≤ -1)).trans_eq (by norm_num)

theorem fl_nonneg (p : ℕ) (q : ℚ) (hq : 0 ≤ q) : 0 ≤ fl p q := by
  have h := fl_ge p q
  rw [abs_of_nonneg hq] at h
  linarith [mul_le_mul_of_nonneg_left (two_zpow_neg_le_one p) hq]

theorem fl_rel (p : ℕ) {x : ℚ} (hx : 0 < x) :
    x * (1 - (2:ℚ) ^ (-(p:ℤ))) ≤ fl p x ∧ fl p x ≤ x * (1 + (2:ℚ) ^ (-(p:ℤ))) := by
  have h := fl_abs_rel p x
  rwa [abs_of_pos hx, abs_of_nonneg (fl_nonneg p x hx.le)] at h

theorem fl_nonpos (p : ℕ) (hp : 1 ≤ p) (q : ℚ) (hq : q ≤ 0) : fl p q ≤ 0 := by
  have h := fl_le p q
  rw [abs_of_nonpos hq] at h
  linarith [mul_le_mul_of_nonneg_left (two_zpow_neg_le_half hp) (neg_nonneg.mpr hq)]

theorem fl_half_le (p : ℕ) (hp : 1 ≤ p) {q : ℚ} (hq : 0 ≤ q) : q / 2 ≤ fl p q := by
  have h := fl_ge p q
  rw [abs_of_nonneg hq] at h
  linarith [mul_le_mul_of_nonneg_left (two_zpow_neg_le_half hp) hq]

theorem fl_le_two_mul (p : ℕ) {q : ℚ} (hq : 0 ≤ q) : fl p q ≤ 2 * q := by
  have h := fl_le p q
  rw [abs_of_nonneg hq] at h
  linarith [mul_le_mul_of_nonneg_left (two_zpow_neg_le_one p) hq]

theorem fl_pos (p : ℕ) (hp : 1 ≤ p) {q : ℚ} (hq : 0 < q) : 0 < fl p q :=
  lt_of_lt_of_le (half_pos hq) (fl_half_le p hp hq.le)

theorem fl_ge_pow2 (p : ℕ) (hp : 1 ≤ p) (k : ℤ) (q : ℚ) (h : (2:ℚ) ^ k ≤ q) : (2:ℚ) ^ k ≤ fl p q := by
  have two : (2:ℚ) ≠ 0 := by norm_num
  have hq0 : 0 < q := lt_of_lt_of_le (zpow2_pos _) h
  obtain ⟨hlo, hhi⟩ := ilog2_spec q hq0.ne'
  rw [abs_of_pos hq0] at hlo hhi
  rw [fl_eq p hq0.ne']
  generalize ilog2 q = e at hlo hhi ⊢
  have hke : k ≤ e := by
    have := zpow2_lt_iff.mp (lt_of_le_of_lt h hhi)
    omega
  -- the significand `q / sc` is at least `2^(p−1)`, an integer, so its rounding is too
  have hsc : (((2:ℤ) ^ (p - 1) : ℤ) : ℚ) * (2:ℚ) ^ (e - ((p:ℤ) - 1)) = (2:ℚ) ^ e := by
    push_cast
    rw [← zpow_natCast, ← zpow_add₀ two, Nat.cast_sub hp]
    congr 1
    push_cast; ring
  have hscpos : 0 < (2:ℚ) ^ (e - ((p:ℤ) - 1)) := zpow2_pos _
  generalize (2:ℚ) ^ (e - ((p:ℤ) - 1)) = sc at hsc hscpos ⊢
  have hr : (((2:ℤ) ^ (p - 1) : ℤ) : ℚ) ≤ (rne (q / sc) : ℚ) := by
    exact_mod_cast rne_ge_of_int_le (q / sc) ((2:ℤ) ^ (p - 1))
      (by rw [le_div_iff₀ hscpos, hsc]; exact hlo)
  calc (2:ℚ) ^ k ≤ (2:ℚ) ^ e := zpow_le_zpow_right₀ (by norm_num) hke
    _ = (((2:ℤ) ^ (p - 1) : ℤ) : ℚ) * sc := hsc.symm
    _ ≤ (rne (q / sc) : ℚ) * sc := mul_le_mul_of_nonneg_right hr hscpos.le

theorem cround_near (x : ℚ) (n : ℤ) (h : |x - n| < 1/2) : cround x = n := by
  obtain ⟨h1, h2⟩ := abs_lt.mp h
  unfold cround
  simp only [floor_eq]
  split_ifs with hx
  · exact Int.floor_eq_iff.mpr ⟨by linarith only [h1], by linarith only [h2]⟩
  · rw [neg_eq_iff_eq_neg, Int.floor_eq_iff]
    push_cast
    exact ⟨by linarith only [h2], by linarith only [h1]⟩

theorem cround_int (z : ℤ) : cround (z : ℚ) = z :=
  cround_near _ z (by simp)

theorem cround_nonneg {x : ℚ} (h : 0 ≤ x) : 0 ≤ cround x := by
  unfold cround
  rw [if_pos h, floor_eq]
  exact Int.floor_nonneg.mpr (by linarith)

theorem ctrunc_of_nonneg (x : ℚ) (h : 0 ≤ x) : ctrunc x = ⌊x⌋ := by
  unfold ctrunc; rw [if_pos h]; rfl

theorem ctrunc_int (z : ℤ) : ctrunc (z : ℚ) = z := by
  unfold ctrunc
  simp only [floor_eq]
  split_ifs with h
  · simp
  · have : (-(z:ℚ)) = ((-z : ℤ) : ℚ) := by push_cast; ring
    rw [this, Int.floor_intCast]; ring

/-! ### one or two roundings and a multiplier

`u` is any bound on the unit round-off `2^−p` (so that a double operation can also be counted at
single precision). -/

theorem rel_err_trans {X Y Z u : ℚ} (hu0 : 0 ≤ u) (hu1 : u ≤ 1) (h1 : |Y - X| ≤ |X| * u)
    (h2 : |Z - Y| ≤ |Y| * u) : |Z - X| ≤ |X| * (3 * u) := by
  have hY : |Y| ≤ |X| + |X| * u := by linarith [abs_sub_abs_le_abs_sub Y X]
  have h3 : |Y| * u ≤ (|X| + |X| * u) * u := mul_le_mul_of_nonneg_right hY hu0
  have h4 : |X| * u * u ≤ |X| * u * 1 :=
    mul_le_mul_of_nonneg_left hu1 (mul_nonneg (abs_nonneg X) hu0)
  linarith [abs_sub_le Z Y X]

section rounding
variable (p : ℕ) {u : ℚ} (hu : (2:ℚ) ^ (-(p:ℤ)) ≤ u)
include hu

theorem u_pos_of_le : 0 < u := lt_of_lt_of_le (zpow2_pos _) hu

theorem fl_err_le (q : ℚ) : |fl p q - q| ≤ |q| * u :=
  (fl_err p q).trans (mul_le_mul_of_nonneg_left hu (abs_nonneg q))

theorem fl_mul_err (a : ℚ) {P : ℚ} (hP : 0 ≤ P) : |fl p a * P - a * P| ≤ |a * P| * u := by
  rw [← sub_mul, abs_mul, abs_mul, abs_of_nonneg hP, mul_right_comm]
  exact mul_le_mul_of_nonneg_right (fl_err_le p hu a) hP

theorem fl_div_mul_err {N P B : ℚ} (hP : 0 < P) (hN : |N| ≤ B) :
    |fl p (N / P) * P - N| ≤ B * u := by
  have := fl_mul_err p hu (N / P) hP.le
  rw [div_mul_cancel₀ N hP.ne'] at this
  exact this.trans (mul_le_mul_of_nonneg_right hN (u_pos_of_le p hu).le)

theorem fl_div_lt {A B P : ℚ} (hP : 0 < P) (h : A + (|A| + |B|) * u < B) :
    fl p (A / P) < fl p (B / P) := by
  have a := (abs_le.mp (fl_div_mul_err p hu hP (le_refl |A|))).2
  have b := (abs_le.mp (fl_div_mul_err p hu hP (le_refl |B|))).1
  exact lt_of_mul_lt_mul_right (by linarith) hP.le

theorem fl_div_int_lt {A B : ℤ} {P a b : ℚ} (hP : 0 < P) (hAB : A < B) (hA : |(A:ℚ)| ≤ a)
    (hB : |(B:ℚ)| ≤ b) (hnum : (a + b) * u < 1) : fl p ((A:ℚ) / P) < fl p ((B:ℚ) / P) := by
  apply fl_div_lt p hu hP
  have h1 : (A:ℚ) + 1 ≤ B := by exact_mod_cast hAB
  have := mul_le_mul_of_nonneg_right (add_le_add hA hB) (u_pos_of_le p hu).le
  linarith

theorem fl_fl_mul_err (hu1 : u ≤ 1) (a : ℚ) {P : ℚ} (hP : 0 ≤ P) :
    |fl p (fl p a * P) - a * P| ≤ |a * P| * (3 * u) :=
  rel_err_trans (u_pos_of_le p hu).le hu1 (fl_mul_err p hu a hP) (fl_err_le p hu _)

end rounding

theorem ne_of_abs_mul_le {x M P l B : ℚ} (hP : l ≤ P) (hM : 0 ≤ M) (h : |x * P| ≤ B)
    (hnum : B < M * l) : x ≠ M := by
  rintro rfl
  linarith [le_abs_self (x * P), mul_le_mul_of_nonneg_left hP hM]

theorem cround_of_rel {z y c B δ : ℚ} {k : ℤ} (hc : 0 ≤ c) (hz : |z - y| ≤ |y| * c) (hB : |y| ≤ B)
    (hk : |y - k| ≤ δ) (hnum : B * c + δ < 1 / 2) : cround z = k := by
  apply cround_near
  have := mul_le_mul_of_nonneg_right hB hc
  linarith [abs_sub_le z y k]

/-- the rest after the integer part, as branches `delta < reference` and `fval > 0` compute it -/
theorem cround_rest (p : ℕ) {u : ℚ} (hu : (2:ℚ) ^ (-(p:ℤ)) ≤ u) (hu1 : u ≤ 1) {y P B δ : ℚ}
    {K J : ℤ} (hy : 0 ≤ y) (hP : 1 ≤ P) (hK : ((⌊y⌋ : ℤ) : ℚ) * P = K) (hB : y * P ≤ B)
    (hJ : |y * P - J| ≤ δ) (hnum : B * (3 * u) + δ < 1 / 2) :
    ⌊y⌋ ≤ K ∧ (K:ℚ) ≤ B ∧ cround (fl p (fl p (y - (⌊y⌋ : ℤ)) * P)) = J - K ∧ 0 ≤ J - K := by
  have hP0 : 0 ≤ P := by linarith
  have ht0 : (0:ℚ) ≤ (⌊y⌋ : ℤ) := by exact_mod_cast Int.floor_nonneg.mpr hy
  have hf0 : 0 ≤ y - (⌊y⌋ : ℤ) := sub_nonneg.mpr (Int.floor_le y)
  have hKy : (K:ℚ) ≤ y * P := hK ▸ mul_le_mul_of_nonneg_right (Int.floor_le y) hP0
  have hfP : (y - (⌊y⌋ : ℤ)) * P = y * P - K := by rw [sub_mul, hK]
  have hfP0 : 0 ≤ (y - (⌊y⌋ : ℤ)) * P := mul_nonneg hf0 hP0
  have hc : cround (fl p (fl p (y - (⌊y⌋ : ℤ)) * P)) = J - K :=
    cround_of_rel (mul_nonneg (by norm_num) (u_pos_of_le p hu).le) (fl_fl_mul_err p hu hu1 _ hP0)
      (by rw [abs_of_nonneg hfP0, hfP]; linarith [hK ▸ mul_nonneg ht0 hP0])
      (by rw [hfP]; push_cast; rwa [sub_sub_sub_cancel_right]) hnum
  refine ⟨?_, hKy.trans hB, hc, ?_⟩
  · exact_mod_cast hK ▸ le_mul_of_one_le_right ht0 hP
  · rw [← hc]
    exact cround_nonneg (fl_nonneg p _ (mul_nonneg (fl_nonneg p _ hf0) hP0))

/-- `val1 = fl (x − g)` of branch `delta < reference`, scaled -/
theorem fl_sub_mul_near (p : ℕ) {u : ℚ} (hu : (2:ℚ) ^ (-(p:ℤ)) ≤ u) {x g P k r δ₁ δ₂ : ℚ}
    {B : ℚ} (hP : 0 ≤ P) (hx : |x * P - k| ≤ δ₁) (hg : |g * P - r| ≤ δ₂) (hB : |k - r| ≤ B) :
    |fl p (x - g) * P - (k - r)| ≤ δ₁ + δ₂ + (B + δ₁ + δ₂) * u := by
  have h1 := fl_mul_err p hu (x - g) hP
  have h2 : |(x - g) * P - (k - r)| ≤ δ₁ + δ₂ := by
    rw [show (x - g) * P - (k - r) = (x * P - k) - (g * P - r) by ring]
    linarith [abs_sub (x * P - k) (g * P - r)]
  have h3 : |(x - g) * P| ≤ B + δ₁ + δ₂ := by
    linarith [abs_sub_abs_le_abs_sub ((x - g) * P) (k - r)]
  have h4 := mul_le_mul_of_nonneg_right h3 (u_pos_of_le p hu).le
  linarith [abs_sub_le (fl p (x - g) * P) ((x - g) * P) (k - r)]

theorem castU64_of_range (t : ℤ) (h0 : 0 ≤ t) (h1 : t < 2 ^ 64) : castU64 t = t.toNat := by
  unfold castU64; rw [if_pos ⟨h0, h1⟩]

theorem castI64_of_range (t : ℤ) (h0 : -(2:ℤ) ^ 63 ≤ t) (h1 : t < 2 ^ 63) : castI64 t = t := by
  unfold castI64; rw [if_pos ⟨h0, h1⟩]

theorem castI32_of_range (t : ℤ) (h0 : -(2:ℤ) ^ 31 ≤ t) (h1 : t < 2 ^ 31) : castI32 t = t := by
  unfold castI32; rw [if_pos ⟨h0, h1⟩]

theorem castU32_of_range (t : ℤ) (h0 : 0 ≤ t) (h1 : t < 2 ^ 32) : castU32 t = t.toNat := by
  unfold castU32
  rw [castI64_of_range t (by omega) (by omega)]
  rw [Int.emod_eq_of_lt h0 (by omega)]

theorem wrapI32_of_range (t : ℤ) (h0 : -(2:ℤ) ^ 31 ≤ t) (h1 : t < 2 ^ 31) : wrapI32 t = t := by
  unfold wrapI32
  simp only
  split_ifs with h <;> omega

theorem wrapI64_of_range (t : ℤ) (h0 : -(2:ℤ) ^ 63 ≤ t) (h1 : t < 2 ^ 63) : wrapI64 t = t := by
  unfold wrapI64
  simp only
  split_ifs with h <;> omega

theorem wrapU64_of_range (t : ℤ) (h0 : 0 ≤ t) (h1 : t < 2 ^ 64) : wrapU64 t = t.toNat := by
  unfold wrapU64; rw [Int.emod_eq_of_lt h0 h1]

theorem wrapU32_of_range (t : ℤ) (h0 : 0 ≤ t) (h1 : t < 2 ^ 32) : wrapU32 t = t.toNat := by
  unfold wrapU32; rw [Int.emod_eq_of_lt h0 h1]

theorem natCast_toNat {z : ℤ} (h : 0 ≤ z) : ((z.toNat : ℕ) : ℚ) = z := by
  rw [← Int.cast_natCast, Int.toNat_of_nonneg h]

theorem castU64_ctrunc {y : ℚ} (hy : 0 ≤ y) (h : ⌊y⌋ < 2 ^ 64) : castU64 (ctrunc y) = ⌊y⌋.toNat := by
  rw [ctrunc_of_nonneg y hy, castU64_of_range _ (Int.floor_nonneg.mpr hy) h]

theorem castU32_ctrunc {y : ℚ} (hy : 0 ≤ y) (h : ⌊y⌋ < 2 ^ 32) : castU32 (ctrunc y) = ⌊y⌋.toNat := by
  rw [ctrunc_of_nonneg y hy, castU32_of_range _ (Int.floor_nonneg.mpr hy) h]

end Bufr.SF
