import BufrProofs.Codec
import BufrProofs.Scale
/-
  BufrProofs.CodecValues — what C07 needs about the values of one element: the integer wrap-arounds are
  the identity in range, the kinds of element whose re-encoding is proved stable (`StableKind`), `readBack` in
  its stages (fresh value, associated field `afRead`, value), and the bits of a numeric-like node split into
  associated field and value.
-/
namespace Bufr
open Bufr Bufr.SF Bufr.Scale

theorem wrapI32_id (z : Int) (h1 : -(2:Int)^31 ≤ z) (h2 : z < (2:Int)^31) : wrapI32 z = z := by
  unfold wrapI32
  have e32 : (2:Int)^32 = 4294967296 := by norm_num
  have e31 : (2:Int)^31 = 2147483648 := by norm_num
  rw [e31] at h1 h2
  simp only [e32, e31]
  split <;> omega

theorem wrapI64_neg1 : wrapI64 (-1) = -1 := wrapI64_of_range _ (by norm_num) (by norm_num)

theorem bitsMSB_mod_self (w v : Nat) : bitsMSB w (v % 2^w) = bitsMSB w v := bitsMSB_mod w v

/-- the kinds of element for which re-encoding is proved stable here -/
inductive StableKind (m : Node) : Prop
  | code (ht : m.enc.type = .codetable ∨ m.enc.type = .flagtable) (h1 : 1 ≤ m.enc.nbits) (h2 : m.enc.nbits ≤ 63)
  | scaled (ht : m.enc.type = .numeric) (hnb : m.enc.nbits ≤ 32) (hv : (sEnc m.enc).Valid)
      (hf : ∃ x, freshVal m.enc = .f64 x)

theorem mkvalNode_fresh (n : Node) (h : n.val = .none) (hs : (freshVal n.enc).isSome = true) :
    mkvalNode n = { n with val := freshVal n.enc, afW := listSumN n.af, afBits := 0 } := by
  unfold mkvalNode
  rw [h]
  have h0 : Val.none.isSome = false := rfl
  simp only [h0, Bool.false_eq_true, if_false, hs, if_true]

/-- the decoder's node once `bufr_get_desc_value` has read its associated field from the bits of `m`: the second
stage of `readBack` -/
def afRead (n m : Node) : Node :=
  if (mkvalNode n).enc.afNbits > 0 ∧ (mkvalNode n).afW > 0 then
    { mkvalNode n with afBits := m.afBits % 2^(mkvalNode n).afW }
  else mkvalNode n

theorem afRead_frame (n m : Node) : ∃ b, afRead n m = { mkvalNode n with afBits := b } := by
  unfold afRead
  split
  · exact ⟨_, rfl⟩
  · exact ⟨_, rfl⟩

theorem readBack_numlike (n m : Node)
    (ht : (mkvalNode n).enc.type = .numeric ∨ (mkvalNode n).enc.type = .codetable ∨
      (mkvalNode n).enc.type = .flagtable) :
    readBack n m = { afRead n m with
      val := valueOfBits (afRead n m) (afRead n m).val (valueBits m % 2^(afRead n m).enc.nbits.toNat) } := by
  have he : (afRead n m).enc = (mkvalNode n).enc := by
    obtain ⟨b, hb⟩ := afRead_frame n m
    rw [hb]
  rw [← he] at ht
  unfold readBack
  dsimp only
  rw [show (if (mkvalNode n).enc.afNbits > 0 ∧ (mkvalNode n).afW > 0 then
      { mkvalNode n with afBits := m.afBits % 2^(mkvalNode n).afW } else mkvalNode n) = afRead n m from rfl]
  rcases ht with h | h | h <;> simp only [h]

def afPart (a : Node) : List Bool := if a.enc.afNbits > 0 ∧ a.afW > 0 then bitsMSB a.afW a.afBits else []

theorem nodeBits_numlike (a : Node) (hs : a.flags.skipped = false)
    (ht : a.enc.type = .numeric ∨ a.enc.type = .codetable ∨ a.enc.type = .flagtable ∨ a.enc.type = .chngRef) :
    nodeBits a = afPart a ++ bitsMSB a.enc.nbits.toNat (valueBits a) := by
  unfold nodeBits afPart
  rcases ht with h | h | h | h <;> simp [hs, h]

end Bufr
