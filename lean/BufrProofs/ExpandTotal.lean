import BufrProofs.Expand
/-
  BufrProofs.ExpandTotal — the static expansion never "diverges" on a descriptor list whose
  regulation expansion exists.

  The model's expansion functions are recursive on a fuel argument and answer `.error .fuel` when it
  runs out: that outcome stands for the C recursing without end.  (The two known ways to get there, a
  Table D sequence that contains itself and replication spans not closed within their sequence, are
  refused before the recursion starts: `tabledCircular`, `spansClosed`.)  `Static T ds out` is a
  *finite* derivation, so it bounds the recursion: by induction on the derivation there is an amount of
  fuel from which on the answer is never `.error .fuel`.
-/
namespace Bufr
open Bufr.Spec

theorem xres_map_ne_fuel {α β : Type} (x : Except XErr α) (g : α → β) (h : x ≠ .error .fuel) :
    x.map g ≠ .error .fuel := by
  cases x with
  | error e =>
    intro hh
    simp only [Except.map] at hh
    injection hh with he
    exact h (by rw [he])
  | ok a => intro hh; simp [Except.map] at hh

theorem xres_bind_ne_fuel {α β : Type} (x : Except XErr α) (g : α → Except XErr β) (h : x ≠ .error .fuel)
    (hg : ∀ a, x = .ok a → g a ≠ .error .fuel) : (x >>= g) ≠ .error .fuel := by
  cases x with
  | error e =>
    intro hh
    simp only [bind, Except.bind] at hh
    injection hh with he
    exact h (by rw [he])
  | ok a => simpa [bind, Except.bind] using hg a rfl

/-- enough fuel for the list: from `f0` on, expanding any fresh node list with these descriptors does not run
out of fuel (it succeeds or is refused) -/
def Enough (T : Tables) (ds : List Nat) (f0 : Nat) : Prop :=
  ∀ f, f0 ≤ f → ∀ ns : List Node, ns.map (·.desc) = ds → (∀ n ∈ ns, Fresh n) →
    expandList T f 0 none ns ≠ .error .fuel

theorem Enough.cons {T : Tables} {d : Nat} {ds : List Nat} {f1 : Nat}
    (step : ∀ f, f1 ≤ f → ∀ (n : Node) (rest : List Node), n.desc = d → rest.map (·.desc) = ds →
      ¬ (n.skipped ∨ n.expanded) → (∀ m ∈ rest, Fresh m) → expandList T (f + 1) 0 none (n :: rest) ≠ .error .fuel) :
    Enough T (d :: ds) (f1 + 1) := by
  intro f hf ns hns hfr
  obtain ⟨f', rfl⟩ : ∃ f', f = f' + 1 := ⟨f - 1, by omega⟩
  match ns, hns, hfr with
  | [], hns, _ => cases hns
  | n :: rest, hns, hfr =>
    obtain ⟨hnd, hrd⟩ := List.cons.inj hns
    obtain ⟨hn, hrest⟩ := List.forall_mem_cons.1 hfr
    refine step f' (by omega) n rest hnd hrd ?_ hrest
    rw [Node.skipped, Node.expanded, hn.1, hn.2]
    exact fun h => h.elim Bool.noConfusion Bool.noConfusion

/-- **Totality of the static expansion.**  If the regulation expansion of `ds` exists, the library's expansion
of `ds` needs only a bounded recursion depth. -/
theorem static_total (T : Tables) (ds out : List Nat) (h : Static T ds out) : ∃ f0, Enough T ds f0 := by
  induction h with
  | nil =>
    refine ⟨1, ?_⟩
    intro f hf ns hns _
    obtain ⟨f', rfl⟩ : ∃ f', f = f' + 1 := ⟨f - 1, by omega⟩
    cases List.map_eq_nil_iff.1 hns
    simp [expandList]
  | elem d ds out hd _ ih =>
    obtain ⟨f1, ih⟩ := ih
    refine ⟨f1 + 1, Enough.cons fun f hf n rest hnd hrd hk hrest => ?_⟩
    rw [expandList, if_neg hk, hnd]
    simp only [hd.1, hd.2, if_false]
    exact xres_map_ne_fuel _ _ (ih f hf rest hrd hrest)
  | seq d ds e m out h3 hfd _ _ ihm ihs =>
    obtain ⟨fm, ihm⟩ := ihm
    obtain ⟨fs, ihs⟩ := ihs
    -- one level for the head of the list (`Enough.cons`), one more for `expandDesc` to reach the members
    refine ⟨max (fm + 1) fs + 1, Enough.cons fun f hf n rest hnd hrd hk hrest => ?_⟩
    have hf1 : fm + 1 ≤ f := by have := Nat.le_max_left (fm + 1) fs; omega
    have hf2 : fs ≤ f := by have := Nat.le_max_right (fm + 1) fs; omega
    rw [expandList, if_neg hk, hnd]
    simp only [h3, if_true]
    have hD : expandDesc T f 0 none d ≠ .error .fuel := by
      obtain ⟨f'', rfl⟩ : ∃ f'', f = f'' + 1 := ⟨f - 1, by omega⟩
      rcases expandDesc_cases T 0 none d with hn | ⟨ent, nodes, _, hfd', hmn, hx⟩
      · rw [hn]; exact fun hh => nomatch hh
      rw [hx]
      cases hfd.symm.trans hfd'
      cases memberNodes_eq T _ _ _ hmn
      exact ihm f'' (by omega) _ (mkNodes_desc T _) (mkNodes_fresh T _)
    refine xres_bind_ne_fuel _ _ hD fun a _ => xres_bind_ne_fuel _ _ (ihs f hf2 rest hrd hrest) fun b _ => ?_
    simp [pure, Except.pure]
  | fixed d ds b out h1 hy hx _ _ ihb ihs =>
    obtain ⟨fb, ihb⟩ := ihb
    obtain ⟨fs, ihs⟩ := ihs
    -- likewise: `replDescriptors` spends a level before it expands the replicas
    refine ⟨max (fb + 1) fs + 1, Enough.cons fun f hf n rest hnd hrd hk hrest => ?_⟩
    have hf1 : fb + 1 ≤ f := by have := Nat.le_max_left (fb + 1) fs; omega
    have hf2 : fs ≤ f := by have := Nat.le_max_right (fb + 1) fs; omega
    have hlen : rest.length = ds.length := by rw [← hrd, List.length_map]
    rw [expandList, if_neg hk, hnd]
    have hlt : ¬ rest.length < Desc.x d := by omega
    simp only [h1, hy, hlt, if_true, if_false]
    have hR : replDescriptors T f 0 none (List.take (Desc.x d) rest) (Desc.y d) ≠ .error .fuel := by
      obtain ⟨f'', rfl⟩ : ∃ f'', f = f'' + 1 := ⟨f - 1, by omega⟩
      unfold replDescriptors
      simp only [show hasFlag 0 OP_ZDRC_IGNORE = false by decide, Bool.false_eq_true, if_false]
      refine ihb f'' (by omega) _ ?_ (replicas_fresh T _ _ _ (fresh_take hrest _))
      rw [replicas_desc, List.map_take, hrd]
    refine xres_bind_ne_fuel _ _ hR fun a _ =>
      xres_bind_ne_fuel _ _ (ihs f hf2 _ (by rw [List.map_drop, hrd]) (fresh_drop hrest _)) fun b _ => ?_
    simp [pure, Except.pure]
  | delayed d c ds out h1 hy0 hc _ ihs =>
    obtain ⟨fs, ihs⟩ := ihs
    refine ⟨fs + 1, Enough.cons fun f hf n rest hnd hrd hk hrest => ?_⟩
    match rest, hrd, hrest with
    | [], hrd, _ => cases hrd
    | c31 :: rest', hrd, hrest =>
      obtain ⟨hcd, hrd⟩ := List.cons.inj hrd
      have hrest' := (List.forall_mem_cons.1 hrest).2
      rw [expandList, if_neg hk, hnd]
      have hy : ¬ Desc.y d > 0 := by omega
      have hc' : Desc.f c31.desc = 0 ∧ Desc.x c31.desc = 31 := by rw [show c31.desc = c from hcd]; exact hc
      simp only [h1, hy, if_true, if_false, hc', and_self, show hasFlag 0 OP_EXPAND_DELAY_REPL = false by decide,
        Bool.false_eq_true, and_false]
      refine xres_bind_ne_fuel _ _ (ihs f hf _ (by rw [List.map_drop, hrd]) (fresh_drop hrest' _)) fun b _ => ?_
      simp [pure, Except.pure]

/-- `y` is what `x` is, unless `x` ran out of fuel -/
def FuelLe {α : Type} (x y : Except XErr α) : Prop := x = .error .fuel ∨ x = y

theorem FuelLe.refl {α : Type} (x : Except XErr α) : FuelLe x x := Or.inr rfl

theorem FuelLe.trans {α : Type} {x y z : Except XErr α} (h1 : FuelLe x y) (h2 : FuelLe y z) : FuelLe x z := by
  rcases h1 with h | h
  · exact Or.inl h
  · subst h; exact h2

theorem FuelLe.map {α β : Type} {x y : Except XErr α} (g : α → β) (h : FuelLe x y) : FuelLe (x.map g) (y.map g) := by
  rcases h with h | h
  · left; rw [h]; rfl
  · right; rw [h]

theorem FuelLe.bind {α β : Type} {x y : Except XErr α} {g g' : α → Except XErr β} (h : FuelLe x y)
    (hg : ∀ a, FuelLe (g a) (g' a)) : FuelLe (x >>= g) (y >>= g') := by
  rcases h with h | h
  · left; rw [h]; rfl
  · subst h
    cases x with
    | error e => right; rfl
    | ok a => exact hg a

theorem FuelLe.ite {α : Type} {c : Prop} [Decidable c] {a a' b b' : Except XErr α}
    (h1 : c → FuelLe a a') (h2 : ¬ c → FuelLe b b') : FuelLe (if c then a else b) (if c then a' else b') := by
  by_cases h : c
  · rw [if_pos h, if_pos h]; exact h1 h
  · rw [if_neg h, if_neg h]; exact h2 h

/-- one more level changes no answer of the three expansion functions other than "out of fuel" (without a
Section 4 bound, `s4 = none`: that is how the template builder calls them) -/
def FuelMono (T : Tables) (f : Nat) : Prop :=
  (∀ flags ns, FuelLe (expandList T f flags none ns) (expandList T (f + 1) flags none ns)) ∧
  (∀ flags body count,
    FuelLe (replDescriptors T f flags none body count) (replDescriptors T (f + 1) flags none body count)) ∧
  (∀ flags d, FuelLe (expandDesc T f flags none d) (expandDesc T (f + 1) flags none d))

theorem fuelMono (T : Tables) : ∀ f, FuelMono T f := by
  intro f
  induction f with
  | zero =>
    refine ⟨?_, ?_, ?_⟩
    · intro flags ns; left; simp [expandList]
    · intro flags b c; left; simp [replDescriptors]
    · intro flags d; left; simp [expandDesc]
  | succ f ih =>
    obtain ⟨ihL, ihR, ihD⟩ := ih
    refine ⟨?_, ?_, ?_⟩
    · intro flags ns
      cases ns with
      | nil => right; simp [expandList]
      | cons n rest =>
        rw [expandList, expandList]
        dsimp only
        refine FuelLe.ite (fun _ => FuelLe.map _ (ihL _ _)) (fun _ => ?_)
        refine FuelLe.ite (fun _ => ?_) (fun _ => ?_)
        · refine FuelLe.ite (fun _ => ?_) (fun _ => ?_)
          · exact FuelLe.ite (fun _ => FuelLe.refl _)
              (fun _ => FuelLe.bind (ihR _ _ _) (fun a => FuelLe.bind (ihL _ _) (fun b => FuelLe.refl _)))
          · cases rest with
            | nil => exact FuelLe.refl _
            | cons c31 rest' =>
              dsimp only
              refine FuelLe.ite (fun _ => ?_) (fun _ => FuelLe.map _ (ihL _ _))
              refine FuelLe.ite (fun _ => ?_) (fun _ => FuelLe.bind (ihL _ _) (fun b => FuelLe.refl _))
              exact FuelLe.ite (fun _ => FuelLe.refl _)
                (fun _ => FuelLe.bind (ihR _ _ _) (fun a => FuelLe.bind (ihL _ _) (fun b => FuelLe.refl _)))
        · refine FuelLe.ite (fun _ => ?_) (fun _ => FuelLe.map _ (ihL _ _))
          exact FuelLe.bind (ihD _ _) (fun a => FuelLe.bind (ihL _ _) (fun b => FuelLe.refl _))
    · intro flags body count
      unfold replDescriptors
      dsimp only
      exact ihL _ _
    · intro flags d
      rcases expandDesc_cases T flags none d with hn | ⟨_, _, _, _, _, hx⟩
      · rw [hn, hn]; exact FuelLe.refl _
      · rw [hx, hx]; exact ihL _ _

theorem expandList_mono (T : Tables) (flags : Nat) (ns : List Node) (f : Nat) :
    ∀ k, FuelLe (expandList T f flags none ns) (expandList T (f + k) flags none ns) := by
  intro k
  induction k with
  | zero => exact FuelLe.refl _
  | succ k ih => exact FuelLe.trans ih ((fuelMono T (f + k)).1 flags ns)

theorem expandSequence_mono (T : Tables) (flags : Nat) (ns : List Node) (f k : Nat) :
    FuelLe (expandSequence T f flags ns) (expandSequence T (f + k) flags ns) := by
  unfold expandSequence
  rcases expandList_mono T flags ns f k with h | h
  · left; rw [h]
  · right; rw [h]

end Bufr
