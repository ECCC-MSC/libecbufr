import BufrModel.Decode
import BufrProofs.Expand
/-
  BufrProofs.NodeFrame — what giving a node its value leaves untouched in it: `X_frame` says that `X` changes at most
  the value and the associated field of the node, `X_enc` is the consequence that encoding and descriptor stay.  The
  decoder proofs with and without the bit-map head share these facts.
-/
namespace Bufr

theorem mkvalNode_frame (n : Node) : ∃ v w b, mkvalNode n = { n with val := v, afW := w, afBits := b } := by
  unfold mkvalNode
  split
  · exact ⟨_, _, _, rfl⟩
  · dsimp only
    split <;> exact ⟨_, _, _, rfl⟩

theorem mkvalNode_df (n : Node) : (mkvalNode n).desc = n.desc ∧ (mkvalNode n).flags = n.flags := by
  obtain ⟨v, w, b, h⟩ := mkvalNode_frame n
  rw [h]
  exact ⟨rfl, rfl⟩

theorem mkvalNode_af_copy (n : Node) (v : Nat) :
    (mkvalNode { mkvalNode n with afBits := v }).val = (mkvalNode n).val ∧
    (mkvalNode { mkvalNode n with afBits := v }).enc = n.enc := by
  constructor
  · unfold mkvalNode
    by_cases h1 : n.val.isSome
    · simp [h1]
    · simp only [h1, Bool.false_eq_true, if_false]
      by_cases h2 : (freshVal n.enc).isSome
      · simp [h2]
      · simp [h2, h1]
  · obtain ⟨v1, w1, b1, h1⟩ := mkvalNode_frame n
    obtain ⟨v2, w2, b2, h2⟩ := mkvalNode_frame { mkvalNode n with afBits := v }
    rw [h2, h1]

theorem getDescValue_frame (r r' : R) (n n' : Node) (h : getDescValue r n = some (r', n')) :
    ∃ v w b, n' = { n with val := v, afW := w, afBits := b } := by
  unfold getDescValue at h
  rcases ite_eq_cases h with ⟨_, h⟩ | ⟨_, h⟩
  · cases h; exact ⟨_, _, _, rfl⟩
  obtain ⟨v0, w0, b0, hm⟩ := mkvalNode_frame n
  rw [hm] at h
  dsimp only at h
  rcases ite_eq_cases h with ⟨_, h⟩ | ⟨_, h⟩
  · cases h; exact ⟨_, _, _, rfl⟩
  split at h
  · cases h
  rename_i r1 n2 hafr
  obtain ⟨b, rfl⟩ : ∃ b, n2 = { n with val := v0, afW := w0, afBits := b } := by
    rcases ite_eq_cases hafr with ⟨_, hafr⟩ | ⟨_, hafr⟩
    · rcases ite_eq_cases hafr with ⟨_, hafr⟩ | ⟨_, hafr⟩
      · cases hafr
      · cases hafr; exact ⟨_, rfl⟩
    · cases hafr; exact ⟨_, rfl⟩
  -- an arm of the `switch` on the element type that fails on a read error and stores a value otherwise
  have guarded : ∀ (err : Prop) [Decidable err] (r2 : R) (v : Val),
      (if err then none else some (r2, { n with val := v, afW := w0, afBits := b })) = some (r', n') →
      ∃ v w b, n' = { n with val := v, afW := w, afBits := b } := by
    intro err _ r2 v h
    replace h := (ite_eq_neg h nofun).2
    cases h
    exact ⟨_, _, _, rfl⟩
  split at h
  case h_1 => exact guarded _ _ _ h  -- characters
  case h_2 =>  -- IEEE: the read error, then 64 or 32 bits
    rcases ite_eq_cases h with ⟨_, h⟩ | ⟨_, h⟩
    · cases h
    · rcases ite_eq_cases h with ⟨_, h⟩ | ⟨_, h⟩ <;> (cases h; exact ⟨_, _, _, rfl⟩)
  case h_3 | h_4 | h_5 | h_6 => exact guarded _ _ _ h  -- numeric, new reference, code table, flag table
  case h_7 =>  -- no data
    cases h
    exact ⟨_, _, _, rfl⟩

theorem setBitsValue_frame (n : Node) (i : Nat) :
    ∃ v w b, setBitsValue n i = { n with val := v, afW := w, afBits := b } := by
  obtain ⟨v0, w0, b0, hm⟩ := mkvalNode_frame n
  unfold setBitsValue
  rw [hm]
  split
  · exact ⟨_, _, _, rfl⟩
  split
  · exact ⟨_, _, _, rfl⟩
  dsimp only
  split
  · split <;> exact ⟨_, _, _, rfl⟩
  · exact ⟨_, _, _, rfl⟩
  · exact ⟨_, _, _, rfl⟩

theorem setBitsValue_enc (n : Node) (v : Nat) :
    (setBitsValue n v).enc = n.enc ∧ (setBitsValue n v).desc = n.desc := by
  obtain ⟨v', w, b, h⟩ := setBitsValue_frame n v
  rw [h]
  exact ⟨rfl, rfl⟩

end Bufr
