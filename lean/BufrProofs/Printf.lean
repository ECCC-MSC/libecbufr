import BufrModel.Sprintf
import BufrProofs.SoftFloat
import Mathlib.Tactic.Linarith
import Mathlib.Tactic.Ring
import Mathlib.Tactic.NormNum
import Mathlib.Tactic.Positivity
/-
  Print/parse inverses for the libc conversions of BufrModel/Printf.lean: decimal and hexadecimal
  integers, `%.kf` against `strtod`.  What digits are worth and how many there are is proved once, over
  the radix, on the digit values (`radixRevV`); `decRev`, `hexRev`, `Sprintf.radixRev` and, in their own files,
  `Dump.binDigits` and `TT.natDigits` are its images.
-/
namespace Bufr.Printf
open Bufr.SF
open Bufr.Sprintf (radixRev radixNat)

theorem takeWhile_append_stop {α} (p : α → Bool) (l r : List α) (hl : ∀ x ∈ l, p x = true)
    (hr : ∀ x, r.head? = some x → p x = false) : (l ++ r).takeWhile p = l := by
  rw [List.takeWhile_append_of_pos hl]
  cases r with
  | nil => exact List.append_nil l
  | cons a t => rw [List.takeWhile_cons_of_neg (Bool.eq_false_iff.mp (hr a rfl)), List.append_nil]

theorem dropWhile_append_stop {α} (p : α → Bool) (l r : List α) (hl : ∀ x ∈ l, p x = true)
    (hr : ∀ x, r.head? = some x → p x = false) : (l ++ r).dropWhile p = r := by
  rw [List.dropWhile_append_of_pos hl]
  cases r with
  | nil => rfl
  | cons a t => exact List.dropWhile_cons_of_neg (Bool.eq_false_iff.mp (hr a rfl))

theorem takeWhile_all {α} (p : α → Bool) (l : List α) (hl : ∀ x ∈ l, p x = true) : l.takeWhile p = l := by
  have := takeWhile_append_stop p l [] hl (by simp)
  simpa using this

/-- digit values of `n` in base `b`, least significant first: `radixRev` before the digits become characters -/
def radixRevV (b : Nat) : Nat → Nat → List Nat
  | 0, _ => []
  | f+1, n => (n % b) :: (if n / b = 0 then [] else radixRevV b f (n / b))

/-- value of digit values given least significant first -/
def valRev (b : Nat) : List Nat → Nat
  | [] => 0
  | d :: r => d + b * valRev b r

theorem radixRev_eq (b f n : Nat) : radixRev b f n = (radixRevV b f n).map hexDig := by
  induction f generalizing n with
  | zero => rfl
  | succ f ih =>
    unfold radixRev radixRevV
    split_ifs <;> simp [ih]

theorem radixRevV_lt (b : Nat) (hb : 0 < b) (f n : Nat) : ∀ d ∈ radixRevV b f n, d < b := by
  induction f generalizing n with
  | zero => simp [radixRevV]
  | succ f ih =>
    unfold radixRevV
    intro d hd
    rcases List.mem_cons.mp hd with rfl | hd
    · exact Nat.mod_lt _ hb
    · split at hd
      · simp at hd
      · exact ih _ d hd

theorem radixRevV_val (b f n : Nat) (h : n < b ^ f) : valRev b (radixRevV b f n) = n := by
  induction f generalizing n with
  | zero => simp at h; subst h; rfl
  | succ f ih =>
    unfold radixRevV
    have hdm := Nat.div_add_mod n b
    by_cases h0 : n / b = 0
    · simp only [h0, if_true, valRev]
      rw [h0] at hdm; omega
    · simp only [h0, if_false, valRev]
      rw [ih _ (Nat.div_lt_of_lt_mul (by rw [← pow_succ']; exact h))]; omega

theorem radixRevV_ne_nil (b f n : Nat) : radixRevV b (f + 1) n ≠ [] := by simp [radixRevV]

theorem radixRevV_length (b f n k : Nat) (hk : 1 ≤ k) (h : n < b ^ k) : (radixRevV b f n).length ≤ k := by
  induction f generalizing n k with
  | zero => simp [radixRevV]
  | succ f ih =>
    unfold radixRevV
    by_cases h0 : n / b = 0
    · simp [h0]; omega
    · simp only [h0, if_false, List.length_cons]
      obtain ⟨k, rfl⟩ : ∃ j, k = j + 1 := ⟨k - 1, by omega⟩
      have hk1 : 1 ≤ k := by
        by_contra hc
        have : k = 0 := by omega
        subst this
        exact h0 (Nat.div_eq_of_lt (by simpa using h))
      have := ih (n / b) k hk1 (Nat.div_lt_of_lt_mul (by rw [← pow_succ']; exact h))
      omega

theorem foldl_radix (b : Nat) (ds : List Nat) (a : Nat) :
    ds.foldl (fun a d => b * a + d) a = a * b ^ ds.length + ds.foldl (fun a d => b * a + d) 0 := by
  induction ds generalizing a with
  | nil => simp
  | cons d t ih =>
    simp only [List.foldl_cons, List.length_cons]
    rw [ih, ih (b * 0 + d)]; ring

theorem foldl_radix_reverse (b : Nat) (l : List Nat) :
    l.reverse.foldl (fun a d => b * a + d) 0 = valRev b l := by
  induction l with
  | nil => rfl
  | cons d t ih =>
    rw [List.reverse_cons, List.foldl_append, foldl_radix, ih]
    simp [valRev]; ring

theorem lt_pow_succ (b n : Nat) (hb : 2 ≤ b) : n < b ^ (n + 1) :=
  calc n < 2 ^ n := Nat.lt_two_pow_self
    _ ≤ b ^ n := Nat.pow_le_pow_left hb n
    _ ≤ b ^ (n + 1) := Nat.pow_le_pow_right (by omega) (by omega)

theorem isDigit_iff {c : Nat} : isDigit c = true ↔ 48 ≤ c ∧ c ≤ 57 := by
  unfold isDigit
  rw [Bool.and_eq_true, decide_eq_true_iff, decide_eq_true_iff]

theorem decRev_eq (f n : Nat) : decRev f n = (radixRevV 10 f n).map (48 + ·) := by
  induction f generalizing n with
  | zero => rfl
  | succ f ih =>
    unfold decRev radixRevV
    split_ifs <;> simp [ih]

theorem digitsVal_map (l : List Nat) : digitsVal (l.map (48 + ·)) = l.foldl (fun a d => 10 * a + d) 0 := by
  unfold digitsVal
  rw [List.foldl_map]
  simp only [Nat.add_sub_cancel_left]

theorem digitsVal_decNat (n : Nat) : digitsVal (decNat n) = n := by
  unfold decNat
  rw [decRev_eq, ← List.map_reverse, digitsVal_map, foldl_radix_reverse,
    radixRevV_val _ _ _ (lt_pow_succ 10 n (by norm_num))]

theorem decNat_digits (n : Nat) : ∀ d ∈ decNat n, isDigit d = true := by
  intro d hd
  unfold decNat at hd
  rw [decRev_eq] at hd
  obtain ⟨v, hv, rfl⟩ := List.mem_map.mp (List.mem_reverse.mp hd)
  have := radixRevV_lt 10 (by norm_num) _ _ v hv
  rw [isDigit_iff]
  omega

theorem decNat_ne_nil (n : Nat) : decNat n ≠ [] := by
  unfold decNat
  simp [decRev]

theorem decNat_length (n k : Nat) (hk : 1 ≤ k) (h : n < 10 ^ k) : (decNat n).length ≤ k := by
  unfold decNat
  rw [List.length_reverse, decRev_eq, List.length_map]
  exact radixRevV_length _ _ _ _ hk h

theorem digitsVal_foldl (ds : List Nat) (a : Nat) :
    ds.foldl (fun a d => 10 * a + (d - 48)) a = a * 10 ^ ds.length + digitsVal ds := by
  have := foldl_radix 10 (ds.map (· - 48)) a
  rwa [List.foldl_map, List.foldl_map, List.length_map] at this

theorem digitsVal_append (a b : List Nat) : digitsVal (a ++ b) = digitsVal a * 10 ^ b.length + digitsVal b := by
  unfold digitsVal
  rw [List.foldl_append, digitsVal_foldl]
  rfl

theorem isDigit_not_space (c : Nat) (h : isDigit c = true) : isSpace c = false := by
  rw [isDigit_iff] at h
  unfold isSpace
  simp
  omega

theorem zpad_digits (w : Nat) (ds : List Nat) (h : ∀ d ∈ ds, isDigit d = true) :
    ∀ d ∈ zpad w ds, isDigit d = true := by
  intro d hd
  unfold zpad at hd
  rcases List.mem_append.mp hd with h1 | h1
  · have := List.eq_of_mem_replicate h1
    subst this; rfl
  · exact h d h1

theorem digitsVal_replicate_zero (k : Nat) : digitsVal (List.replicate k 48) = 0 := by
  induction k with
  | zero => rfl
  | succ k ih =>
    rw [List.replicate_succ]
    have := digitsVal_append [48] (List.replicate k 48)
    simp only [List.singleton_append] at this
    rw [this, ih]; simp [digitsVal]

theorem digitsVal_zpad (w : Nat) (ds : List Nat) : digitsVal (zpad w ds) = digitsVal ds := by
  unfold zpad
  rw [digitsVal_append, digitsVal_replicate_zero]; simp

theorem zpad_length_eq (w : Nat) (ds : List Nat) : (zpad w ds).length = max w ds.length := by
  unfold zpad
  simp only [List.length_append, List.length_replicate]; omega

theorem zpad_length (w : Nat) (ds : List Nat) (h : ds.length ≤ w) : (zpad w ds).length = w := by
  rw [zpad_length_eq, Nat.max_eq_left h]

/-! ### `%d` against `atol` -/

theorem strtol_digits (c : Nat) (t : List Nat) (hd : ∀ d ∈ c :: t, isDigit d = true) :
    strtol (c :: t) = (if (digitsVal (c :: t) : Int) > 2 ^ 63 - 1 then 2 ^ 63 - 1 else (digitsVal (c :: t) : Int)) := by
  have hc := hd c (by simp)
  have hsp : isSpace c = false := isDigit_not_space c hc
  have hc1 : c ≠ 45 ∧ c ≠ 43 := by
    rw [isDigit_iff] at hc
    omega
  unfold strtol
  simp only [List.dropWhile_cons, hsp, Bool.false_eq_true, if_false]
  split
  · next r heq => simp at heq; exact absurd heq.1 hc1.1
  · next r heq => simp at heq; exact absurd heq.1 hc1.2
  · simp only [takeWhile_all isDigit (c :: t) hd, Bool.false_eq_true, if_false]

theorem strtol_neg_digits (t : List Nat) (hd : ∀ d ∈ t, isDigit d = true) :
    strtol (45 :: t) = (if (digitsVal t : Int) > 2 ^ 63 then -(2:Int) ^ 63 else -(digitsVal t : Int)) := by
  unfold strtol
  simp only [List.dropWhile_cons, show isSpace 45 = false from rfl, Bool.false_eq_true, if_false,
    takeWhile_all isDigit t hd, if_true]

theorem strtol_fmtInt (v : Int) (h0 : -(2:Int) ^ 63 ≤ v) (h1 : v < 2 ^ 63) : strtol (fmtInt v) = v := by
  unfold fmtInt
  by_cases hv : v < 0
  · rw [if_pos hv, strtol_neg_digits _ (decNat_digits _), digitsVal_decNat]
    have : ((v.natAbs : Nat) : Int) = -v := by omega
    rw [this]
    split_ifs <;> omega
  · rw [if_neg hv]
    obtain ⟨c, t, hct⟩ := List.exists_cons_of_ne_nil (decNat_ne_nil v.natAbs)
    have hd := decNat_digits v.natAbs
    rw [hct] at hd ⊢
    rw [strtol_digits c t hd, ← hct, digitsVal_decNat]
    have : ((v.natAbs : Nat) : Int) = v := by omega
    rw [this]
    split_ifs <;> omega

theorem atol_fmtInt (v : Int) (h0 : -(2:Int) ^ 63 ≤ v) (h1 : v < 2 ^ 63) : atol (fmtInt v) = v :=
  strtol_fmtInt v h0 h1

theorem atoi_fmtInt (v : Int) (h0 : -(2:Int) ^ 31 ≤ v) (h1 : v < 2 ^ 31) : atoi (fmtInt v) = v := by
  unfold atoi
  rw [strtol_fmtInt v (by omega) (by omega)]
  exact wrapI32_of_range v h0 h1

/-! ### `%llx` against `sscanf("%llx")` -/

theorem hexDigVal_hexDig : ∀ d, d < 16 → hexDigVal (hexDig d) = some d := by decide

/-- values of the hexadecimal digits, least significant first -/
abbrev hexRevV : Nat → Nat → List Nat := radixRevV 16

theorem hexRev_eq_radix (f n : Nat) : hexRev f n = radixRev 16 f n := by
  induction f generalizing n with
  | zero => rfl
  | succ f ih =>
    unfold hexRev radixRev
    split_ifs <;> simp [ih]

theorem hexRev_eq (f n : Nat) : hexRev f n = (hexRevV f n).map hexDig := by
  rw [hexRev_eq_radix, radixRev_eq]

theorem hexRevV_lt (f n : Nat) : ∀ d ∈ hexRevV f n, d < 16 := radixRevV_lt 16 (by norm_num) f n

theorem takeHex_map (l : List Nat) (h : ∀ d ∈ l, d < 16) : takeHex (l.map hexDig) = l := by
  induction l with
  | nil => rfl
  | cons d t ih =>
    simp only [List.map_cons, takeHex, hexDigVal_hexDig d (h d (by simp))]
    rw [ih (fun x hx => h x (by simp [hx]))]

/-- `sscanf("0x…", "%llx")` reads back what `%llx` printed after `0x` -/
theorem scanHex_hexNat (b : Nat) (hb : b < 2 ^ 64) : scanHex (48 :: 120 :: hexNat b) = some b := by
  have hne : hexRevV (b + 1) b ≠ [] := radixRevV_ne_nil 16 b b
  have hl := hexRevV_lt (b + 1) b
  have hform : hexNat b = ((hexRevV (b + 1) b).reverse).map hexDig := by
    unfold hexNat; rw [hexRev_eq, List.map_reverse]
  have hl' : ∀ d ∈ (hexRevV (b + 1) b).reverse, d < 16 := fun d hd => hl d (List.mem_reverse.mp hd)
  obtain ⟨c, t, hct⟩ := List.exists_cons_of_ne_nil (show (hexRevV (b + 1) b).reverse ≠ [] by simpa using hne)
  have hc : c < 16 := hl' c (by rw [hct]; simp)
  unfold scanHex
  simp only [List.dropWhile_cons, show isSpace 48 = false from rfl, Bool.false_eq_true, if_false]
  have hhead : ((hexNat b).head?.bind hexDigVal).isSome = true := by
    rw [hform, hct]; simp [hexDigVal_hexDig c hc]
  simp only [hhead, true_or, and_self, if_true]
  rw [hform, takeHex_map _ hl']
  have hemp : ((hexRevV (b + 1) b).reverse.isEmpty) = false := by rw [hct]; rfl
  simp only [hemp, Bool.false_eq_true, if_false]
  rw [foldl_radix_reverse, radixRevV_val _ _ _ (lt_pow_succ 16 b (by norm_num))]
  simp
  intro h
  have : (2:Nat) ^ 64 = 18446744073709551616 := by norm_num
  omega

/-! ### `%.kf` against `strtod` -/

theorem rne_near (y : ℚ) (n : ℤ) (h : |y - n| < 1 / 2) : rne y = n := SF.rne_near y n h

/-- the decimal number `strtod` reads from `digits.digits` (k ≥ 1 decimals) -/
theorem scanDecimal_fixed (a b k : Nat) (hk : 1 ≤ k) (hb : b < 10 ^ k) :
    scanDecimal (decNat a ++ 46 :: zpad k (decNat b)) = some (((a * 10 ^ k + b : Nat) : ℚ) / ((10 ^ k : Nat) : ℚ)) := by
  have hda := decNat_digits a
  have hdb := zpad_digits k _ (decNat_digits b)
  have hlen : (zpad k (decNat b)).length = k := zpad_length k _ (decNat_length b k hk hb)
  unfold scanDecimal
  have h1 : (decNat a ++ 46 :: zpad k (decNat b)).takeWhile isDigit = decNat a :=
    takeWhile_append_stop isDigit _ _ hda (by rintro x ⟨⟩; rfl)
  simp only [h1, List.drop_left']
  have h2 : (zpad k (decNat b)).takeWhile isDigit = zpad k (decNat b) := takeWhile_all _ _ hdb
  simp only [h2, List.drop_length]
  have hne : ¬ ((decNat a).isEmpty = true ∧ (zpad k (decNat b)).isEmpty = true) := by
    intro h; exact decNat_ne_nil a (List.isEmpty_iff.mp h.1)
  simp only [hne, if_false, hlen]
  rw [digitsVal_append, digitsVal_decNat, digitsVal_zpad, digitsVal_decNat, hlen]
  simp [pow10r]

/-- … and from an integer without a point (k = 0) -/
theorem scanDecimal_int (a : Nat) : scanDecimal (decNat a) = some (a : ℚ) := by
  have hda := decNat_digits a
  unfold scanDecimal
  have h1 : (decNat a).takeWhile isDigit = decNat a := takeWhile_all _ _ hda
  simp only [h1, List.drop_length]
  have hne : ¬ ((decNat a).isEmpty = true ∧ ([] : List Nat).isEmpty = true) := by
    intro h; exact decNat_ne_nil a (List.isEmpty_iff.mp h.1)
  simp only [hne, if_false]
  simp [digitsVal_decNat, pow10r]

/-- the decimal value of the text `%.kf` prints for `q` -/
def fmtFVal (k : Nat) (q : ℚ) : ℚ :=
  let m : ℚ := (rneNat (|q| * ((10 ^ k : Nat) : ℚ)) : ℚ) / ((10 ^ k : Nat) : ℚ)
  if q < 0 then -m else m

theorem digit_head_not_special (c : Nat) (t : List Nat) (hc : isDigit c = true) :
    isSpace c = false ∧ c ≠ 45 ∧ c ≠ 43 ∧
      startsWithCI [105, 110, 102] (c :: t) = false ∧ startsWithCI [110, 97, 110] (c :: t) = false := by
  have hsp := isDigit_not_space c hc
  rw [isDigit_iff] at hc
  have hl : lower c ≠ 105 ∧ lower c ≠ 110 := by
    constructor <;> · unfold lower; split_ifs <;> omega
  refine ⟨hsp, by omega, by omega, ?_, ?_⟩
  · unfold startsWithCI; simp [hl.1]
  · unfold startsWithCI; simp [hl.2]

theorem strtoFP_digit (p : Nat) (emin emax : Int) (c : Nat) (t : List Nat) (hc : isDigit c = true) :
    strtoFP p emin emax (c :: t) = (match scanDecimal (c :: t) with
      | none => .fin 0
      | some q => roundIEEE p emin emax q) := by
  obtain ⟨hsp, h45, h43, hinf, hnan⟩ := digit_head_not_special c t hc
  unfold strtoFP
  simp only [List.dropWhile_cons, hsp, Bool.false_eq_true, if_false]
  split
  · next r heq => simp at heq; exact absurd heq.1 h45
  · next r heq => simp at heq; exact absurd heq.1 h43
  · simp only [hinf, hnan, Bool.false_eq_true, if_false]
    split <;> simp_all

theorem strtoFP_neg_digit (p : Nat) (emin emax : Int) (c : Nat) (t : List Nat) (hc : isDigit c = true) :
    strtoFP p emin emax (45 :: c :: t) = (match scanDecimal (c :: t) with
      | none => .fin 0
      | some q => roundIEEE p emin emax (-q)) := by
  obtain ⟨_, _, _, hinf, hnan⟩ := digit_head_not_special c t hc
  unfold strtoFP
  simp only [List.dropWhile_cons, show isSpace 45 = false from rfl, Bool.false_eq_true, if_false, hinf, hnan, if_true]
  cases scanDecimal (c :: t) <;> rfl

theorem rneNat_le (x : ℚ) (n : ℕ) (h : x ≤ (n:ℚ)) : rneNat x ≤ n :=
  Int.toNat_le.mpr (rne_le_of_le_int x n (by exact_mod_cast h))

/-- **`strtod` of what `%.kf` printed** is the correctly rounded binary of the printed decimal -/
theorem strtoFP_fmtF (p : Nat) (emin emax : Int) (k : Nat) (q : ℚ) :
    strtoFP p emin emax (fmtF k q) = roundIEEE p emin emax (fmtFVal k q) := by
  unfold fmtF fmtFVal
  simp only
  rw [abs_eq_ite]
  set m := rneNat (|q| * ((10 ^ k : Nat) : ℚ)) with hm
  have hpos : (0:ℚ) < ((10 ^ k : Nat) : ℚ) := by positivity
  -- the digits after the optional sign
  have hval : scanDecimal (decNat (m / 10 ^ k) ++ (if k = 0 then [] else 46 :: zpad k (decNat (m % 10 ^ k)))) =
      some ((m : ℚ) / ((10 ^ k : Nat) : ℚ)) := by
    by_cases hk : k = 0
    · subst hk; simp [scanDecimal_int]
    · rw [if_neg hk, scanDecimal_fixed _ _ k (by omega) (Nat.mod_lt _ (by positivity))]
      congr 2
      have := Nat.div_add_mod m (10 ^ k)
      rw [mul_comm] at this
      exact_mod_cast this
  obtain ⟨c, t, hct⟩ := List.exists_cons_of_ne_nil (decNat_ne_nil (m / 10 ^ k))
  have hc : isDigit c = true := decNat_digits _ c (by rw [hct]; simp)
  by_cases hq : q < 0
  · simp only [hq, if_true, List.cons_append, List.nil_append]
    rw [hct] at hval ⊢
    simp only [List.cons_append] at hval ⊢
    rw [strtoFP_neg_digit p emin emax c _ hc, hval]
  · simp only [hq, if_false, List.nil_append]
    rw [hct] at hval ⊢
    simp only [List.cons_append] at hval ⊢
    rw [strtoFP_digit p emin emax c _ hc, hval]

end Bufr.Printf
