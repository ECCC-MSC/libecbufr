import BufrModel.Frame
/-
  Framing (C06).  The idea that carries the read-back proofs: `Reads p xs a` says that the reader
  program `p`, run on `xs` followed by anything, returns `a` and leaves what followed.  It is closed
  under `>>=` with the byte lists concatenated, so each `rdSectionN` against `wrSectionN`, the
  scanner against `pre ++ "BUFR"`, and the whole message are `Reads` statements composed by `bind`.
  Callbacks are related to lists once, by `runSrc_sim`.
-/
namespace Bufr.Frame

@[simp] theorem runList_ret {α} (a : α) (l : List Nat) : (Prog.ret a).runList l = .ok (a, l) := rfl
@[simp] theorem runList_pure {α} (a : α) (l : List Nat) : (pure a : Prog α).runList l = .ok (a, l) := rfl
@[simp] theorem runList_fail {α} (l : List Nat) : (Prog.fail : Prog α).runList l = .err := rfl

theorem runList_bulk {α} (n : Nat) (k : List Nat → Prog α) (l : List Nat) :
    (Prog.bulk n k).runList l = if n ≤ l.length then (k (l.take n)).runList (l.drop n) else .err := rfl

def Res.andThen {α β : Type} : Res α → (α → Res β) → Res β
  | .ok a, f => f a
  | .err, _ => .err

@[simp] theorem Res.andThen_ok {α β} (a : α) (f : α → Res β) : (Res.ok a).andThen f = f a := rfl
@[simp] theorem Res.andThen_err {α β} (f : α → Res β) : (Res.err : Res α).andThen f = .err := rfl

@[simp] theorem runList_bind {α β} (p : Prog α) (f : α → Prog β) (l : List Nat) :
    (p >>= f).runList l = (p.runList l).andThen (fun r => (f r.1).runList r.2) := by
  show (p.bind f).runList l = _
  induction p generalizing l with
  | ret a => rfl
  | fail => rfl
  | bulk n k ih =>
    simp only [Prog.bind, runList_bulk]
    split
    · exact ih _ _
    · rfl

theorem Prog.bind_assoc {α β γ} (p : Prog α) (g : α → Prog β) (f : β → Prog γ) :
    (p >>= g) >>= f = p >>= fun x => g x >>= f := by
  show (p.bind g).bind f = p.bind fun x => (g x).bind f
  induction p with
  | ret a => rfl
  | fail => rfl
  | bulk n k ih => simp only [Prog.bind, ih]

@[simp] theorem runList_readOctet_cons (b : Nat) (l : List Nat) :
    readOctet.runList (b :: l) = .ok (b, l) := by
  simp [readOctet, runList_bulk]

@[simp] theorem runList_readOctet_nil : readOctet.runList [] = .err := by
  simp [readOctet, runList_bulk]

theorem runList_bulk_append {α} (n : Nat) (k : List Nat → Prog α) (xs l : List Nat) (h : xs.length = n) :
    (Prog.bulk n k).runList (xs ++ l) = (k xs).runList l := by
  subst h; simp [runList_bulk]

@[simp] theorem runList_readInt3b (a b c : Nat) (l : List Nat) :
    readInt3b.runList (a :: b :: c :: l) = .ok (a * 65536 + b * 256 + c, l) := by
  simp [readInt3b]

@[simp] theorem runList_readInt2b (a b : Nat) (l : List Nat) :
    readInt2b.runList (a :: b :: l) = .ok (a * 256 + b, l) := by
  simp [readInt2b]

theorem int3b_val (v : Nat) (h : v < 16777216) :
    v / 65536 % 256 * 65536 + v / 256 % 256 * 256 + v % 256 = v := by omega

theorem int2b_val (v : Nat) : v / 256 % 256 * 256 + v % 256 = v % 65536 := by omega

theorem runList_skipOctets (n : Nat) : ∀ (xs l : List Nat), xs.length = n →
    (skipOctets n).runList (xs ++ l) = .ok ((), l) := by
  induction n with
  | zero => intro xs l h; simp [List.length_eq_zero_iff] at h; subst h; simp [skipOctets]
  | succ n ih =>
    intro xs l h
    match xs, h with
    | x :: xs, h =>
      simp only [List.length_cons, Nat.add_right_cancel_iff] at h
      simp [skipOctets, ih xs l h]

/-- `p` reads exactly the bytes `xs`, whatever follows them, and returns `a` -/
def Reads {α} (p : Prog α) (xs : List Nat) (a : α) : Prop :=
  ∀ rest, p.runList (xs ++ rest) = .ok (a, rest)

theorem Reads.ret {α} {a b : α} (h : a = b) : Reads (Pure.pure a) [] b := by
  intro rest
  rw [← h]
  rfl

theorem Reads.octet (b : Nat) : Reads readOctet [b] b := runList_readOctet_cons b

theorem Reads.int3 {v : Nat} (h : v < 16777216) : Reads readInt3b (int3b v) v := by
  intro rest
  simp [int3b, int3b_val v h]

theorem Reads.int2 (v : Nat) : Reads readInt2b (int2b v) (v % 65536) := by
  intro rest
  simp [int2b, int2b_val]

theorem Reads.bulk {α} {k : List Nat → Prog α} {xs : List Nat} {b : α} (h : k xs = Pure.pure b) :
    Reads (.bulk xs.length k) xs b := by
  intro rest
  rw [runList_bulk_append _ k xs _ rfl, h]
  rfl

theorem Reads.skip (xs : List Nat) : Reads (skipOctets xs.length) xs () :=
  fun rest => runList_skipOctets _ xs rest rfl

/-- what `p` reads is fixed, so after it the continuation is on its own: the rule by which a
straight-line reader is run against the bytes of a writer, one `simp only` step per read -/
theorem Reads.bind_iff {α β} {p : Prog α} {f : α → Prog β} {xs ys : List Nat} {a : α} {c : β}
    (hp : Reads p xs a) : Reads (p >>= f) (xs ++ ys) c ↔ Reads (f a) ys c := by
  unfold Reads
  simp only [List.append_assoc, runList_bind, hp _, Res.andThen_ok]

theorem Reads.bind {α β} {p : Prog α} {f : α → Prog β} {xs ys : List Nat} {a : α} {b : β}
    (hp : Reads p xs a) (hf : Reads (f a) ys b) : Reads (p >>= f) (xs ++ ys) b :=
  (Reads.bind_iff hp).mpr hf

theorem Reads.map {α β} {p : Prog α} {g : α → β} {xs : List Nat} {a : α} {b : β}
    (hp : Reads p xs a) (h : g a = b) : Reads (p >>= fun x => pure (g x)) xs b := by
  rw [← List.append_nil xs]
  exact hp.bind (Reads.ret h)

theorem Reads.pure_bind {α β} {a : α} {f : α → Prog β} {xs : List Nat} {c : β} :
    Reads (pure a >>= f) xs c ↔ Reads (f a) xs c := Iff.rfl

theorem Reads.octet_bind {β} {f : Nat → Prog β} {b : Nat} {ys : List Nat} {c : β} :
    Reads (readOctet >>= f) (b :: ys) c ↔ Reads (f b) ys c :=
  Reads.bind_iff (Reads.octet b)

theorem Reads.int2_bind {β} {f : Nat → Prog β} {v : Nat} {ys : List Nat} {c : β} :
    Reads (readInt2b >>= f) (int2b v ++ ys) c ↔ Reads (f (v % 65536)) ys c :=
  Reads.bind_iff (Reads.int2 v)

theorem Reads.int3_bind {β} {f : Nat → Prog β} {v : Nat} {ys : List Nat} {c : β} (h : v < 16777216) :
    Reads (readInt3b >>= f) (int3b v ++ ys) c ↔ Reads (f v) ys c :=
  Reads.bind_iff (Reads.int3 h)

theorem Reads.bulk_bind {α β} {k : List Nat → Prog α} {f : α → Prog β} {n : Nat} {xs ys zs : List Nat} {c : β}
    (hz : zs = xs ++ ys) (hn : xs.length = n) :
    Reads (Prog.bulk n k >>= f) zs c ↔ Reads (k xs >>= f) ys c := by
  subst hz hn
  unfold Reads
  simp only [List.append_assoc, runList_bind, runList_bulk_append _ k xs _ rfl]

/-- The callback contract.  `view s` is what the source still holds.  When `n` bytes are
available the callback returns exactly the next `n`; otherwise what it returns is not `n` bytes long, which is
all `Prog.runSrc` asks before it gives up. -/
structure Src.Faithful {σ : Type} (S : Src σ) (view : σ → List Nat) (Inv : σ → Prop) : Prop where
  exact : ∀ s n, Inv s → n ≤ (view s).length →
    (S.read s n).1 = (view s).take n ∧ view (S.read s n).2 = (view s).drop n ∧ Inv (S.read s n).2
  short : ∀ s n, Inv s → (view s).length < n → (S.read s n).1.length ≠ n
  fuel : ∀ s, Inv s → S.remaining s = (view s).length

/-- result of a list run transported to source states -/
def Res.matches {α σ : Type} (view : σ → List Nat) (Inv : σ → Prop) :
    Res (α × List Nat) → Res (α × σ) → Prop
  | .ok (a, l), .ok (b, s) => a = b ∧ view s = l ∧ Inv s
  | .err, .err => True
  | _, _ => False

theorem runSrc_sim {α σ : Type} (S : Src σ) (view : σ → List Nat) (Inv : σ → Prop)
    (hF : S.Faithful view Inv) (p : Prog α) :
    ∀ s, Inv s → Res.matches view Inv (p.runList (view s)) (p.runSrc S s) := by
  induction p with
  | ret a => intro s hs; exact ⟨rfl, rfl, hs⟩
  | fail => intro s hs; trivial
  | bulk n k ih =>
    intro s hs
    simp only [runList_bulk, Prog.runSrc]
    by_cases hn : n ≤ (view s).length
    · obtain ⟨h1, h2, h3⟩ := hF.exact s n hs hn
      have hl : (S.read s n).1.length = n := by rw [h1]; simp [hn]
      simp only [hn, hl, if_true]
      have := ih (S.read s n).1 (S.read s n).2 h3
      rw [h2, h1] at this
      rw [h1]
      exact this
    · have hl := hF.short s n hs (by omega)
      simp only [hn, hl, if_false]
      trivial

theorem readMessageSrc_sim {σ : Type} (S : Src σ) (view : σ → List Nat) (Inv : σ → Prop)
    (hF : S.Faithful view Inv) (s : σ) (hs : Inv s) :
    Res.matches view Inv ((readMessageP ((view s).length + 1)).runList (view s)) (readMessageSrc S s) := by
  unfold readMessageSrc
  rw [hF.fuel s hs]
  exact runSrc_sim S view Inv hF _ s hs

def Cur.Inv (c : Cur) : Prop := c.pos ≤ c.data.length

theorem Cur.faithful (S : Src Cur) (Inv : Cur → Prop) (got : Cur → Nat → Nat)
    (hread : ∀ c n, S.read c n = ((c.data.drop c.pos).take (got c n), { c with pos := c.pos + got c n }))
    (hgot : ∀ c n, Inv c → n ≤ c.data.length - c.pos → got c n = n ∧ Inv { c with pos := c.pos + n })
    (hrem : ∀ c, S.remaining c = c.data.length - c.pos) : S.Faithful Cur.rest Inv := by
  refine ⟨?_, ?_, ?_⟩
  · intro c n hc hn
    simp only [Cur.rest, List.length_drop] at hn
    obtain ⟨hg, hi⟩ := hgot c n hc hn
    rw [hread, hg]
    exact ⟨rfl, (List.drop_drop ..).symm, hi⟩
  · intro c n _ hn
    simp only [Cur.rest, List.length_drop] at hn
    rw [hread, List.length_take, List.length_drop]
    omega
  · intro c _
    rw [hrem, Cur.rest, List.length_drop]

theorem memSrc_faithful : memSrc.Faithful Cur.rest Cur.Inv := by
  refine Cur.faithful memSrc _ (fun c n => if c.pos + n ≥ c.data.length then c.data.length - c.pos else n)
    (fun _ _ => rfl) (fun c n hc hn => ?_) (fun _ => rfl)
  unfold Cur.Inv at *
  dsimp only
  split <;> omega

/-- a user callback that loops until it has the bytes (chunk = 0) is faithful -/
theorem cbSrc_faithful : (cbSrc 0).Faithful Cur.rest Cur.Inv := by
  refine Cur.faithful (cbSrc 0) _ (fun c n => min n (c.data.length - c.pos))
    (fun _ _ => rfl) (fun c n hc hn => ?_) (fun _ => rfl)
  unfold Cur.Inv at *
  dsimp only
  omega

/-- `read(2)` refuses a count above `SSIZE_MAX` = 2^63 - 1: the descriptor callback is faithful as long as fewer than
2^63 bytes remain -/
theorem fdSrc_faithful :
    fdSrc.Faithful Cur.rest (fun c => c.pos ≤ c.data.length ∧ c.data.length < 9223372036854775808) := by
  refine Cur.faithful fdSrc _ (fun c n => if n ≥ 9223372036854775808 then 0 else min n (c.data.length - c.pos))
    (fun c n => ?_) (fun c n hc hn => ?_) (fun _ => rfl)
  · unfold fdSrc
    dsimp only
    split <;> rfl
  · dsimp only at *
    split <;> omega

theorem toInt32_small (n : Nat) (h : n < 2147483648) : toInt32 n = n := by
  unfold toInt32
  have : n % 4294967296 = n := Nat.mod_eq_of_lt (by omega)
  simp only [this]
  split
  · omega
  · rfl

theorem fileSrc_faithful :
    fileSrc.Faithful Cur.rest (fun c => c.pos ≤ c.data.length ∧ c.data.length < 2147483648) := by
  refine Cur.faithful fileSrc _
    (fun c n => if toInt32 n ≤ 0 then 0 else min (toInt32 n).toNat (c.data.length - c.pos))
    (fun c n => ?_) (fun c n hc hn => ?_) (fun _ => rfl)
  · unfold fileSrc
    dsimp only
    split <;> rfl
  · dsimp only at *
    rw [toInt32_small n (by omega)]
    split <;> omega

/-- what `bufr_seek_msg_start` keeps of the foreign bytes `s` when it starts in state `k`:
everything except a `\004` met in state 0 -/
def seekCollect : Nat → List Nat → List Nat
  | _, [] => []
  | k, c :: s => (if k = 0 ∧ c = 4 then [] else [c]) ++ seekCollect (seekNext k c) s

/-- what the scanner has matched in state `k`: the first `k` characters of the start marker `BUFR` = `[66, 85, 70, 82]` -/
def patTake (k : Nat) : List Nat := [66, 85, 70, 82].take k

theorem hasMarker_cons (x : Nat) (t : List Nat) :
    hasMarker (x :: t) = false ↔ sw4 (x :: t) = false ∧ hasMarker t = false :=
  Bool.or_eq_false_iff

theorem hasMarker_append_right (a b : List Nat) (h : hasMarker (a ++ b) = false) : hasMarker b = false := by
  induction a with
  | nil => exact h
  | cons x a ih => exact ih ((hasMarker_cons ..).mp h).2

/-- one step of the automaton keeps "no marker in (matched prefix ++ remaining input)": a match
extends the prefix, a mismatch leaves a suffix of what was there -/
theorem seek_step (k c : Nat) (t : List Nat) (hk : k ≤ 3)
    (h : hasMarker (patTake k ++ c :: t) = false) :
    seekNext k c ≠ 4 ∧ seekNext k c ≤ 3 ∧ hasMarker (patTake (seekNext k c) ++ t) = false := by
  unfold seekNext
  by_cases hc : c = [66, 85, 70, 82].getD k 0
  · have hp : patTake (k + 1) ++ t = patTake k ++ c :: t := by
      have : k = 0 ∨ k = 1 ∨ k = 2 ∨ k = 3 := by omega
      rw [hc]
      rcases this with rfl | rfl | rfl | rfl <;> rfl
    have hlt : k < 3 := by
      refine Nat.lt_of_le_of_ne hk ?_
      rintro rfl
      rw [← hp] at h
      exact Bool.noConfusion h
    rw [if_pos hc, hp]
    exact ⟨Nat.ne_of_lt (Nat.succ_lt_succ hlt), hlt, h⟩
  · rw [if_neg hc]
    split
    · next hb =>
      subst hb
      exact ⟨by decide, by decide, hasMarker_append_right (patTake k) _ h⟩
    · exact ⟨by decide, by decide, hasMarker_append_right (patTake k ++ [c]) t (by rw [List.append_assoc]; exact h)⟩

theorem seekP_succ (fuel k : Nat) (acc : List Nat) (c : Nat) (l : List Nat) :
    (seekP (fuel + 1) k acc).runList (c :: l) =
      (if seekNext k c = 4 then
         Res.ok ((((if k = 0 ∧ c = 4 then acc else c :: acc).drop 4).reverse), l)
       else (seekP fuel (seekNext k c) (if k = 0 ∧ c = 4 then acc else c :: acc)).runList l) := by
  simp only [seekP, runList_bind, runList_readOctet_cons, Res.andThen_ok]
  split <;> rfl

theorem seekP_marker (k fuel : Nat) (acc rest : List Nat) (hk : k ≤ 3) (hf : 4 ≤ fuel) :
    (seekP fuel k acc).runList (66 :: 85 :: 70 :: 82 :: rest) = .ok (acc.reverse, rest) := by
  obtain ⟨f, rfl⟩ : ∃ f, fuel = f + 1 + 1 + 1 + 1 := ⟨fuel - 4, by omega⟩
  have hk' : k = 0 ∨ k = 1 ∨ k = 2 ∨ k = 3 := by omega
  rcases hk' with rfl | rfl | rfl | rfl <;>
    simp [seekP_succ, seekNext]

theorem seekP_found : ∀ (s : List Nat) (k fuel : Nat) (acc rest : List Nat), k ≤ 3 →
    s.length + 4 ≤ fuel → hasMarker (patTake k ++ (s ++ [66, 85, 70])) = false →
    (seekP fuel k acc).runList (s ++ 66 :: 85 :: 70 :: 82 :: rest) =
      .ok (acc.reverse ++ seekCollect k s, rest) := by
  intro s
  induction s with
  | nil =>
    intro k fuel acc rest hk hf _
    simp only [List.nil_append, seekCollect, List.append_nil]
    exact seekP_marker k fuel acc rest hk (by simpa using hf)
  | cons c s ih =>
    intro k fuel acc rest hk hf hq
    obtain ⟨f, rfl⟩ : ∃ f, fuel = f + 1 := ⟨fuel - 1, by simp at hf; omega⟩
    obtain ⟨h4, h3, hq'⟩ := seek_step k c (s ++ [66, 85, 70]) hk (by simpa using hq)
    simp only [List.cons_append, seekP_succ, h4, if_false]
    rw [ih (seekNext k c) f _ rest h3 (by simp at hf; omega) hq']
    simp only [seekCollect]
    split <;> simp

theorem seekP_none : ∀ (s : List Nat) (k fuel : Nat) (acc : List Nat), k ≤ 3 →
    hasMarker (patTake k ++ s) = false → (seekP fuel k acc).runList s = .err := by
  intro s
  induction s with
  | nil =>
    intro k fuel acc _ _
    cases fuel with
    | zero => rfl
    | succ f => simp [seekP]
  | cons c s ih =>
    intro k fuel acc hk hq
    cases fuel with
    | zero => rfl
    | succ f =>
      obtain ⟨h4, h3, hq'⟩ := seek_step k c s hk hq
      simp only [seekP_succ, h4, if_false]
      exact ih _ _ _ h3 hq'

theorem hasMarker_append_BUF : ∀ (s : List Nat), hasMarker s = false → hasMarker (s ++ [66, 85, 70]) = false := by
  intro s
  induction s with
  | nil => intro _; decide
  | cons x t ih =>
    intro h
    obtain ⟨h1, h2⟩ := (hasMarker_cons ..).mp h
    refine (hasMarker_cons ..).mpr ⟨?_, ih h2⟩
    match t, h1 with
    | [], _ => simp [sw4]
    | [a], _ => simp [sw4]
    | [a, b], _ => simp [sw4]
    | a :: b :: c :: t', h1 => simpa [sw4] using h1

theorem seekCollect_no_eot : ∀ (s : List Nat) (k : Nat), 4 ∉ s → seekCollect k s = s := by
  intro s
  induction s with
  | nil => intro k _; rfl
  | cons c s ih =>
    intro k h
    simp only [List.mem_cons, not_or] at h
    have hc : c ≠ 4 := fun e => h.1 e.symm
    simp [seekCollect, hc, ih _ h.2]

theorem seek_pre (pre : List Nat) (fuel : Nat) (hm : NoMarker pre) (hf : pre.length + 4 ≤ fuel) :
    Reads (seekP fuel 0 []) (pre ++ [66, 85, 70, 82]) (seekCollect 0 pre) := by
  intro rest
  rw [List.append_assoc]
  exact seekP_found pre 0 fuel [] rest (Nat.zero_le 3) hf (hasMarker_append_BUF pre hm)

/-- The escape `\ooo` that `str_schar2oct` writes for `c` scans back to `c`, and its first digit is `'0'`…`'7'` (48…55), so
`str_oct2char` takes it neither for the second backslash of `\\` (92) nor for the `n` of `\n` (110). -/
theorem escByte_oct3 : ∀ c, c < 128 → isEscByte c = true →
    (sscanfOct (oct3 c)).getD 0 % 256 = c ∧ (48 ≤ 48 + c / 64 % 8 ∧ 48 + c / 64 % 8 ≤ 55) ∧
    (48 + c / 64 % 8 ≠ 92) ∧ (48 + c / 64 % 8 ≠ 110) := by
  decide

theorem isEscByte_lt (c : Nat) (h : isEscByte c = true) : c < 128 := by
  simp [isEscByte] at h; omega

theorem oct2charF_nil (f : Nat) : oct2charF f [] = [] := by cases f <;> rfl

theorem oct2charF_cons_ne (f c : Nat) (X : List Nat) (hc : c ≠ 92) :
    oct2charF (f + 1) (c :: X) = c :: oct2charF f X := by
  cases X with
  | nil => simp [oct2charF, oct2charF_nil]
  | cons d r => simp [oct2charF, hc]

theorem oct2charF_schar2oct : ∀ (r : List Nat) (fuel : Nat), (schar2oct r).length ≤ fuel →
    oct2charF fuel (schar2oct r) = r := by
  intro r
  induction r with
  | nil => intro fuel _; simp [schar2oct, oct2charF_nil]
  | cons c r ih =>
    intro fuel hf
    by_cases h92 : c = 92
    · subst h92
      simp only [schar2oct, if_true, List.cons_append, List.nil_append] at hf ⊢
      obtain ⟨f, rfl⟩ : ∃ f, fuel = f + 1 := ⟨fuel - 1, by simp at hf; omega⟩
      simp only [oct2charF, if_true]
      rw [ih f (by simp at hf; omega)]
    · by_cases he : isEscByte c = true
      · obtain ⟨h1, h2, h3, h4⟩ := escByte_oct3 c (isEscByte_lt c he) he
        simp only [schar2oct, h92, he, if_true, if_false, oct3, List.cons_append, List.nil_append] at hf ⊢
        obtain ⟨f, rfl⟩ : ∃ f, fuel = f + 1 := ⟨fuel - 1, by simp at hf; omega⟩
        simp only [oct3] at h1
        simp only [oct2charF, if_true, h3, h4, if_false, h2, and_self, h1]
        rw [ih f (by simp at hf; omega)]
      · simp only [schar2oct, h92, he, if_false, List.cons_append, List.nil_append, Bool.false_eq_true] at hf ⊢
        obtain ⟨f, rfl⟩ : ∃ f, fuel = f + 1 := ⟨fuel - 1, by simp at hf; omega⟩
        rw [oct2charF_cons_ne f c _ h92, ih f (by simp at hf; omega)]

theorem oct2char_schar2oct (r : List Nat) : oct2char (schar2oct r) = r :=
  oct2charF_schar2oct r _ (Nat.le_refl _)

def DescOk (d : Nat) : Prop := d / 100000 < 4 ∧ d / 1000 % 100 < 64 ∧ d % 1000 < 256

instance (d : Nat) : Decidable (DescOk d) := by unfold DescOk; infer_instance

/-- Section 1 values the edition's octets and the API field types can hold -/
def S1InRange (ed : Nat) (s : Sect1) : Prop :=
  s.headerLen = s1HeaderLen ed ∧ s1DefaultLen ed ≤ s.len ∧ s.headerLen + s.data.length ≤ s.len ∧
  (s.data = [] ∨ s1DefaultLen ed < s.len) ∧ (ed ≤ 3 → s.len % 2 = 0) ∧
  s.centre < 65536 ∧ (ed = 3 → s.centre < 256) ∧ s.subCentre < 32768 ∧ (ed = 3 → s.subCentre < 256) ∧
  s.year < 32768 ∧ s.masterTable < 256 ∧ s.updSeq < 256 ∧ s.flag < 256 ∧ s.msgType < 256 ∧
  s.interSub < 256 ∧ s.localSub < 256 ∧ s.masterVer < 256 ∧ s.localVer < 256 ∧ s.month < 256 ∧
  s.day < 256 ∧ s.hour < 256 ∧ s.minute < 256 ∧ s.second < 256

instance (ed : Nat) (s : Sect1) : Decidable (S1InRange ed s) := by unfold S1InRange; infer_instance

/-- the quantifier of C06 on a message before `bufr_end_message` -/
def FieldsInRange (m : Msg) : Prop :=
  (m.edition = 2 ∨ m.edition = 3 ∨ m.edition = 4) ∧ S1InRange m.edition m.s1 ∧
  (m.edition ≤ 3 → hasSect2 m.s1.flag = true → m.s2Data.length % 2 = 0) ∧
  m.nSubsets < 65536 ∧ m.s3Flag < 256 ∧ (∀ d ∈ m.descs, DescOk d) ∧
  m.s4Bitno < 8 ∧ m.s4Data.length = m.s4Filled + (if m.s4Bitno > 0 then 1 else 0) ∧
  m.endMessage.lenMsg < 16777216

instance (m : Msg) : Decidable (FieldsInRange m) := by unfold FieldsInRange; infer_instance

/-- Section 1 as a reader returns it -/
def normalizeS1 (ed : Nat) (s : Sect1) : Sect1 :=
  { len := s.len, headerLen := s1HeaderLen ed, masterTable := 0,
    centre := if ed = 3 then s.centre % 256 else s.centre % 65536,
    subCentre := if ed = 2 then 0 else if ed = 3 then s.subCentre % 256 else s.subCentre % 65536,
    updSeq := s.updSeq % 256, flag := s.flag % 256, msgType := s.msgType % 256,
    interSub := if ed ≥ 4 then s.interSub % 256 else 0,
    localSub := s.localSub % 256, masterVer := s.masterVer % 256, localVer := s.localVer % 256,
    year := if ed ≥ 4 then s.year % 65536 else yearOfCentury s.year % 256,
    month := s.month % 256, day := s.day % 256, hour := s.hour % 256, minute := s.minute % 256,
    second := if ed ≥ 4 then s.second % 256 else 0,
    data := if s1DefaultLen ed < s.len then
              s.data ++ List.replicate (s.len - (s.headerLen + s.data.length)) 0 else [] }

/-- a descriptor after its trip through the two-octet code -/
def normDesc (d : Nat) : Nat := codeDesc (descCode d / 256) (descCode d % 256)

/-- the message a reader returns for the bytes of `m` (after `bufr_end_message`), with the
header string `h` it collected -/
def normalize (h : Option (List Nat)) (m : Msg) : Msg :=
  { edition := m.edition, lenMsg := m.lenMsg, s1 := normalizeS1 m.edition m.s1,
    s2Len := m.s2Len, s2Data := if hasSect2 m.s1.flag then m.s2Data else [],
    s3Len := m.s3Len, nSubsets := m.nSubsets % 65536, s3Flag := m.s3Flag % 256,
    descs := m.descs.map normDesc, s3Buf := m.s3Buf.take (m.s3Len - 7),
    s4Len := m.s4Len, s4Data := m.s4Data.take (m.s4Len - 4), s4Filled := 0, s4Bitno := 0, header := h }

theorem normDesc_ok (d : Nat) (h : DescOk d) : normDesc d = d := by
  obtain ⟨h1, h2, h3⟩ := h
  have hd : d = d / 100000 * 100000 + d / 1000 % 100 * 1000 + d % 1000 := by omega
  unfold normDesc codeDesc descCode
  dsimp only
  generalize d / 100000 = f at *
  generalize d / 1000 % 100 = x at *
  generalize d % 1000 = y at *
  rw [Nat.mod_eq_of_lt h1, Nat.mod_eq_of_lt h2, Nat.mod_eq_of_lt h3, Nat.div_add_mod']
  have e1 : (f * 16384 + x * 256 + y) / 16384 % 4 = f := by omega
  have e2 : (f * 16384 + x * 256 + y) / 256 % 64 = x := by omega
  have e3 : (f * 16384 + x * 256 + y) % 256 = y := by omega
  rw [e1, e2, e3]
  exact hd.symm

/-- the end of `bufr_rd_section1`: the additional octets (`n` of them when the length read is not
the default) and the padding up to the length -/
theorem sect1_tail_read {β} (s : Sect1) (n : Nat) (T : List Nat) (k : List Nat → Prog Sect1)
    (g : Sect1 → β) (c : β) (hk : ∀ d, k d = pure { s with data := d })
    (hT : T.length = s.len - s.headerLen) (hn : n = 0 ∨ 0 < n ∧ n = T.length)
    (hc : g { s with data := if 0 < n then T else s.data } = c) :
    Reads (do
      let s1 ← (if n > 0 then Prog.bulk n k else pure s)
      skipOctets (s1.len - (s1.headerLen + n))
      pure (g s1)) T c := by
  rcases hn with rfl | ⟨hpos, rfl⟩
  · rw [if_neg (Nat.lt_irrefl 0)] at hc ⊢
    rw [Reads.pure_bind, Nat.add_zero, ← hT]
    exact (Reads.skip T).map hc
  · rw [if_pos hpos] at hc ⊢
    have h0 : s.len - (s.headerLen + T.length) = 0 := by omega
    rw [Reads.bulk_bind (List.append_nil T).symm rfl, hk, Reads.pure_bind]
    show Reads (skipOctets (s.len - (s.headerLen + T.length)) >>= _) [] c
    rw [h0]
    exact (Reads.skip []).map hc

theorem sect1_tail_arith (data : List Nat) (len H D : Nat) (hHD : H ≤ D) (h2 : D ≤ len)
    (h3 : H + data.length ≤ len) (h4 : data = [] ∨ D < len) :
    let T := data ++ List.replicate (len - (H + data.length)) 0
    let n := if len ≠ D then len - H else 0
    T.length = len - H ∧ (n = 0 ∨ 0 < n ∧ n = T.length) ∧ (0 < n ↔ D < len) := by
  have h4' : data.length = 0 ∨ D < len := h4.imp (congrArg List.length) id
  simp only [List.length_append, List.length_replicate]
  split <;> omega

theorem s1_read (m M : Msg) (hed : m.edition = 2 ∨ m.edition = 3 ∨ m.edition = 4)
    (hr : S1InRange m.edition m.s1) (hM : M.edition = m.edition) (hs : M.s1 = initSect1 m.edition)
    (hlen : m.s1.len < 16777216) :
    Reads (rdSection1 M) (wrSection1 m) { M with s1 := normalizeS1 m.edition m.s1 } := by
  obtain ⟨hHdr, hMin, hFit, hData, -, -, -, hSub, -, hYear, -⟩ := hr
  rw [hHdr] at hFit
  have hsub : ¬ (32768 ≤ m.s1.subCentre % 65536) := by omega
  have hyear : ¬ (32768 ≤ m.s1.year % 65536) := by omega
  have hguard : ¬ (m.s1.len ≠ M.s1.len ∧ ¬ (M.edition ≥ 2 ∧ m.s1.len > M.s1.len)) := by
    rw [hs, hM]
    show ¬ (m.s1.len ≠ s1DefaultLen m.edition ∧ ¬ (m.edition ≥ 2 ∧ m.s1.len > s1DefaultLen m.edition))
    omega
  simp only [rdSection1, wrSection1, List.append_assoc]
  rw [Reads.int3_bind hlen, if_neg hguard]
  rcases hed with he | he | he
  all_goals
    simp only [he, hHdr, hM, hs, initSect1, s1DefaultLen, s1HeaderLen, normalizeS1, List.append_assoc, List.cons_append,
      List.nil_append, Reads.octet_bind, Reads.int2_bind, Prog.bind_assoc, Reads.pure_bind, asShort, hsub, hyear,
      ge_iff_le, Nat.le_refl, ↓reduceIte, Nat.reduceEqDiff, Nat.reduceLeDiff, or_true, or_false, true_and,
      List.length_nil] at hMin hFit hData ⊢
    have key := sect1_tail_arith _ _ _ _ (by decide) hMin hFit hData
    refine sect1_tail_read _ _ _ _ _ _ (fun _ => rfl) key.1 key.2.1 ?_
    dsimp only
    congr 2
    exact ite_congr (propext key.2.2) (fun _ => rfl) (fun _ => rfl)

/-- a message whose stored lengths describe its contents (what `bufr_end_message` leaves) -/
structure Ready (m : Msg) : Prop where
  ed : m.edition = 2 ∨ m.edition = 3 ∨ m.edition = 4
  s1 : S1InRange m.edition m.s1
  s2len : m.s2Len = if hasSect2 m.s1.flag then 4 + m.s2Data.length else 0
  s3len : m.s3Len = 7 + 2 * m.descs.length + (if m.edition ≤ 3 then 1 else 0)
  s3buf : m.s3Len - 7 ≤ m.s3Buf.length
  s3bytes : m.s3Buf.take (2 * m.descs.length) = m.descs.flatMap descBytes
  nsub : m.nSubsets < 65536
  s3flag : m.s3Flag < 256
  descs : ∀ d ∈ m.descs, DescOk d
  s4len : m.s4Len = m.s4Data.length + 4
  len : m.lenMsg = 8 + m.s1.len + m.s2Len + m.s3Len + m.s4Len + 4
  small : m.lenMsg < 16777216

theorem flatMap_descBytes_length (ds : List Nat) : (ds.flatMap descBytes).length = 2 * ds.length := by
  induction ds with
  | nil => rfl
  | cons d ds ih => simp [List.flatMap_cons, descBytes, ih]; omega

theorem endMessage_edition (m : Msg) : m.endMessage.edition = m.edition := rfl
theorem endMessage_s1 (m : Msg) : m.endMessage.s1 = m.s1 := rfl
theorem endMessage_s2Data (m : Msg) : m.endMessage.s2Data = m.s2Data := rfl
theorem endMessage_descs (m : Msg) : m.endMessage.descs = m.descs := rfl
theorem endMessage_nSubsets (m : Msg) : m.endMessage.nSubsets = m.nSubsets := rfl
theorem endMessage_s3Flag (m : Msg) : m.endMessage.s3Flag = m.s3Flag := rfl
theorem endMessage_header (m : Msg) : m.endMessage.header = m.header := rfl

theorem endMessage_s2Len (m : Msg) :
    m.endMessage.s2Len = if hasSect2 m.s1.flag then 4 + m.s2Data.length else 0 := rfl

theorem endMessage_lenMsg (m : Msg) :
    m.endMessage.lenMsg = 8 + m.endMessage.s1.len + m.endMessage.s2Len + m.endMessage.s3Len +
      m.endMessage.s4Len + 4 := rfl

theorem endMessage_s3Len (m : Msg) (hed : m.edition = 2 ∨ m.edition = 3 ∨ m.edition = 4) :
    m.endMessage.s3Len = 7 + 2 * m.descs.length + (if m.edition ≤ 3 then 1 else 0) := by
  unfold Msg.endMessage Msg.encodeSect3
  dsimp only
  -- 7 + 2n is odd: edition 3 makes it even in `bufr_encode_sect3`, edition 2 in `bufr_end_message`
  have hodd : (7 + 2 * m.descs.length) % 2 = 1 := by omega
  have heven : (7 + 2 * m.descs.length + 1) % 2 ≠ 1 := by omega
  rcases hed with he | he | he
  · simp [he, hodd]
  · simp [he, hodd, heven]
  · simp [he]

theorem usub32_of_le (a b : Nat) (h : b ≤ a) : usub32 a b = a - b := by
  unfold usub32; simp [h]

/-- `bufr_encode_sect3` leaves the descriptors' octets followed by at least the pad octet of editions 2 and 3 -/
theorem endMessage_s3Buf (m : Msg) : ∃ pad, m.endMessage.s3Buf = m.descs.flatMap descBytes ++ pad ∧
    (if m.edition ≤ 3 then 1 else 0) ≤ pad.length := by
  show ∃ pad, (Msg.encodeSect3 m).s3Buf = _ ∧ _
  unfold Msg.encodeSect3
  dsimp only
  by_cases h : m.s3Buf.length < 2 * m.descs.length + (if m.edition ≤ 3 then 1 else 0)
  · rw [if_pos h]
    exact ⟨_, rfl, by split <;> exact Nat.le_refl _⟩
  · rw [if_neg h]
    exact ⟨_, rfl, by rw [List.length_drop]; omega⟩

theorem endMessage_sect4 (m : Msg) :
    (m.edition ≤ 3 → m.endMessage.s4Len % 2 = 0) ∧
    (m.s4Data.length = m.s4Filled + (if m.s4Bitno > 0 then 1 else 0) →
      m.endMessage.s4Len = m.endMessage.s4Data.length + 4) := by
  unfold Msg.endMessage; dsimp only
  by_cases hp : m.edition ≤ 3 ∧ (m.s4Filled + 4 + if m.s4Bitno > 0 then 1 else 0) % 2 = 1
  · simp only [hp, and_self, decide_true, if_true, List.length_append, List.length_cons, List.length_nil]
    by_cases hb : m.s4Bitno = 0
    · simp [hb] at hp ⊢; omega
    · have : m.s4Bitno > 0 := by omega
      simp [hb, this] at hp ⊢; omega
  · simp only [hp, decide_false, if_false, Bool.false_eq_true]
    omega

theorem ready_endMessage (m : Msg) (h : FieldsInRange m) : Ready m.endMessage := by
  obtain ⟨hed, hs1, _, hns, hfl, hds, _, hs4, hsmall⟩ := h
  obtain ⟨pad, hbuf, hpad⟩ := endMessage_s3Buf m
  have hs3 := endMessage_s3Len m hed
  have hn := flatMap_descBytes_length m.descs
  refine ⟨hed, hs1, rfl, hs3, ?_, ?_, hns, hfl, hds, (endMessage_sect4 m).2 hs4, rfl, hsmall⟩
  · rw [hs3, hbuf, List.length_append, hn]
    omega
  · rw [hbuf]
    exact List.take_left' hn

/-- Section 0 makes the fresh edition 4 message of `bufr_callback_read_message` one of the
edition read -/
theorem s0_read (h : Option (List Nat)) (L ed : Nat) (hL : L < 16777216) (hed : ed = 2 ∨ ed = 3 ∨ ed = 4) :
    Reads (rdSection0 { createMessage 4 with header := h }) (int3b L ++ [ed % 256])
      { createMessage ed with lenMsg := L, header := h } := by
  have h256 : ed % 256 = ed := by omega
  unfold rdSection0
  rw [h256]
  refine (Reads.int3 hL).bind ((Reads.octet ed).map ?_)
  rcases hed with rfl | rfl | rfl <;> rfl

theorem s2_read (m M : Msg) (hR : Ready m)
    (hf : hasSect2 M.s1.flag = hasSect2 m.s1.flag) (h0 : M.s2Len = 0) (h1 : M.s2Data = []) :
    Reads (rdSection2 M) (wrSection2 m)
      { M with s2Len := m.s2Len, s2Data := if hasSect2 m.s1.flag then m.s2Data else [] } := by
  have hl := hR.s2len
  have hsm := hR.small
  have hlen := hR.len
  by_cases hs : hasSect2 m.s1.flag = true
  · simp only [hs, if_true] at hl
    have hpos : m.s2Len > 0 := by omega
    have hu : usub32 m.s2Len 4 = m.s2Data.length := by rw [usub32_of_le _ _ (by omega)]; omega
    simp only [rdSection2, wrSection2, hf, hs, hpos, and_self, if_true]
    refine (Reads.int3 (by omega)).bind ((Reads.octet 0).bind ?_)
    rw [hu]
    exact Reads.bulk rfl
  · have hs' : hasSect2 m.s1.flag = false := by simpa using hs
    simp only [hs', if_false, Bool.false_eq_true] at hl
    simp only [rdSection2, wrSection2, hf, hs', Bool.false_eq_true, false_and, if_false, hl]
    refine Reads.ret ?_
    cases M; simp_all

theorem decodeDescs_bytes : ∀ (ds tail : List Nat),
    decodeDescs ds.length (ds.flatMap descBytes ++ tail) = ds.map normDesc := by
  intro ds
  induction ds with
  | nil => intro tail; rfl
  | cons d ds ih =>
    intro tail
    simp only [List.length_cons, List.flatMap_cons, descBytes, List.cons_append, List.nil_append,
      decodeDescs, List.map_cons]
    rw [ih]; rfl

theorem s3_read (m M : Msg) (hR : Ready m) (hM : M.edition = m.edition) :
    Reads (rdSection3 M) (wrSection3 m)
      { M with s3Len := m.s3Len, nSubsets := m.nSubsets % 65536, s3Flag := m.s3Flag % 256,
               s3Buf := m.s3Buf.take (m.s3Len - 7) } := by
  have hl := hR.s3len
  have hsm := hR.small
  have hlen := hR.len
  have hu : usub32 m.s3Len 7 = (m.s3Buf.take (m.s3Len - 7)).length := by
    rw [usub32_of_le _ _ (by omega), List.length_take]; have := hR.s3buf; omega
  have hev : ¬ (M.edition = 3 ∧ m.s3Len % 2 = 1) := by
    rintro ⟨h3, ho⟩
    rw [hM] at h3
    rw [hl, h3] at ho
    simp at ho; omega
  unfold rdSection3 wrSection3
  refine (Reads.int3 (by omega)).bind ((Reads.octet 0).bind ((Reads.int2 _).bind
    ((Reads.octet _).bind ?_)))
  simp only [hev, if_false, ne_eq, not_true_eq_false]
  rw [hu]
  exact Reads.bulk rfl

theorem s3_decode (m : Msg) (hR : Ready m) :
    decodeDescs ((m.s3Len - 7) / 2) (m.s3Buf.take (m.s3Len - 7)) = m.descs.map normDesc := by
  have hl := hR.s3len
  have hcount : (m.s3Len - 7) / 2 = m.descs.length := by
    rw [hl]; split <;> omega
  rw [hcount, ← List.take_append_drop (2 * m.descs.length) (m.s3Buf.take (m.s3Len - 7)), List.take_take,
    Nat.min_eq_left (by rw [hl]; omega), hR.s3bytes]
  exact decodeDescs_bytes _ _

theorem s4_read (m M : Msg) (hR : Ready m) (h1 : M.s1.len = m.s1.len)
    (h2 : M.s2Len = m.s2Len) (h3 : M.s3Len = m.s3Len) (hL : M.lenMsg = m.lenMsg) :
    Reads (rdSection4 M) (wrSection4 m)
      { M with s4Len := m.s4Len, s4Data := m.s4Data.take (m.s4Len - 4) } := by
  have hl := hR.s4len
  have hsm := hR.small
  have hlen := hR.len
  have htl : (m.s4Data.take (m.s4Len - 4)).length = m.s4Len - 4 := by
    rw [List.length_take]; omega
  have htot : 8 + M.s1.len + M.s2Len + M.s3Len + 4 + m.s4Len = M.lenMsg := by
    rw [h1, h2, h3, hL, hlen]; omega
  have hbad : ¬ (((m.s4Len : Int) - 4 < 0) ∨ ((m.s4Len : Int) - 4 > 16777216)) := by omega
  have hnat : ((m.s4Len : Int) - 4).toNat = (m.s4Data.take (m.s4Len - 4)).length := by omega
  have h4 : 4 + (m.s4Data.take (m.s4Len - 4)).length = m.s4Len := by omega
  unfold rdSection4 wrSection4
  refine (Reads.int3 (by omega)).bind ((Reads.octet 0).bind ?_)
  simp only [htot, ne_eq, not_true_eq_false, if_false, hbad, hnat, h4]
  exact Reads.bulk rfl

theorem s5_read : Reads rdSection5 wrSection5 () :=
  Reads.bulk (xs := [55, 55, 55, 55]) (if_pos rfl)

/-- Sections 0–5 without the start marker -/
def bodyAfterMarker (m : Msg) : List Nat :=
  int3b m.lenMsg ++ [m.edition % 256] ++ (wrSection1 m ++ (wrSection2 m ++ (wrSection3 m ++
    (wrSection4 m ++ wrSection5))))

theorem writeBody_eq (m : Msg) : writeBody m = [66, 85, 70, 82] ++ bodyAfterMarker m := by
  simp only [writeBody, wrSection0, bodyAfterMarker, List.append_assoc]

theorem read_sections (m : Msg) (hR : Ready m) (h : Option (List Nat)) :
    Reads (readSections h) (bodyAfterMarker m) (normalize h m) := by
  have hsm := hR.small
  have hlen := hR.len
  have hed := hR.ed
  have hN : normEdition m.edition = m.edition := by rcases hed with e | e | e <;> rw [e] <;> rfl
  obtain ⟨-, -, -, -, -, -, -, -, -, -, -, -, hFlag, -⟩ := hR.s1
  have hflag : m.s1.flag % 256 = m.s1.flag := Nat.mod_eq_of_lt hFlag
  have h0 := s0_read h m.lenMsg m.edition hsm hed
  have h1 := s1_read m { createMessage m.edition with lenMsg := m.lenMsg, header := h } hed hR.s1 hN
    (congrArg initSect1 hN) (by omega)
  refine h0.bind (h1.bind ((s2_read m _ hR (congrArg hasSect2 hflag) (by rfl) (by rfl)).bind
    ((s3_read m _ hR hN).bind
      ((s4_read m _ hR (by rfl) (by rfl) (by rfl) (by rfl)).bind (s5_read.map ?_)))))
  simp only [Msg.decodeSect3, normalize, s3_decode m hR]
  rw [show (createMessage m.edition).edition = m.edition from hN]
  rfl

theorem wrSection0_length (m : Msg) : (wrSection0 m).length = 8 := by simp [wrSection0, int3b]

theorem wrSection1_length (m : Msg) (hed : m.edition = 2 ∨ m.edition = 3 ∨ m.edition = 4)
    (hr : S1InRange m.edition m.s1) : (wrSection1 m).length = m.s1.len := by
  obtain ⟨hHdr, -, hFit, -⟩ := hr
  rcases hed with he | he | he
  all_goals
    simp only [wrSection1, he, s1HeaderLen, List.length_append, List.length_cons, List.length_nil,
      List.length_replicate, int3b, int2b, ↓reduceIte, Nat.reduceEqDiff, ge_iff_le, Nat.reduceLeDiff] at hHdr ⊢
    omega

theorem wrSection2_length (m : Msg) (hR : Ready m) : (wrSection2 m).length = m.s2Len := by
  have hl := hR.s2len
  unfold wrSection2
  cases hs : hasSect2 m.s1.flag
  · rw [hl, hs]
    rfl
  · rw [hs, if_pos rfl] at hl
    rw [if_pos ⟨rfl, by omega⟩, hl]
    simp [int3b]
    omega

theorem wrSection3_length (m : Msg) (hR : Ready m) : (wrSection3 m).length = m.s3Len := by
  have hl := hR.s3len
  have hb := hR.s3buf
  simp [wrSection3, int3b, int2b]; omega

theorem wrSection4_length (m : Msg) (hR : Ready m) : (wrSection4 m).length = m.s4Len := by
  have hl := hR.s4len
  simp [wrSection4, int3b]; omega

theorem writeBody_length (m : Msg) (hR : Ready m) : (writeBody m).length = m.lenMsg := by
  simp only [writeBody, List.length_append, wrSection0_length, wrSection1_length m hR.ed hR.s1,
    wrSection2_length m hR, wrSection3_length m hR, wrSection4_length m hR, hR.len, wrSection5,
    List.length_cons, List.length_nil]

theorem readMessageP_prefix (pre : List Nat) (m : Msg) (hR : Ready m) (hp : NoMarker pre) (fuel : Nat)
    (hf : pre.length + 4 ≤ fuel) :
    Reads (readMessageP fuel) (pre ++ [66, 85, 70, 82] ++ bodyAfterMarker m)
      (normalize (headerOf (seekCollect 0 pre)) m) :=
  (seek_pre pre fuel hp hf).bind (read_sections m hR _)

theorem readMessage_prefix (pre rest : List Nat) (m : Msg) (hR : Ready m) (hp : NoMarker pre) :
    readMessage (pre ++ writeBody m ++ rest) =
      .ok (normalize (headerOf (seekCollect 0 pre)) m, pre.length + (writeBody m).length) := by
  unfold readMessage
  rw [writeBody_eq, ← List.append_assoc pre, readMessageP_prefix pre m hR hp _ ?_ rest]
  · simp only [List.length_append, List.length_cons, List.length_nil]
    congr 3
    omega
  · simp only [List.length_append, List.length_cons, List.length_nil]
    omega

theorem readMessage_none (tail : List Nat) (ht : NoMarker tail) : readMessage tail = .err := by
  unfold readMessage
  unfold readMessageP
  rw [runList_bind, seekP_none tail 0 _ [] (Nat.zero_le 3) ht]
  rfl

/-- a stream: for every message the foreign bytes in front of its `BUFR` (a separator followed
by the message's own header string), then trailing bytes -/
def streamOf : List (List Nat × Msg) → List Nat → List Nat
  | [], tail => tail
  | (pre, m) :: r, tail => pre ++ writeBody m ++ streamOf r tail

theorem readAll_stream : ∀ (items : List (List Nat × Msg)) (tail : List Nat) (fuel : Nat),
    (∀ it ∈ items, Ready it.2 ∧ NoMarker it.1) → NoMarker tail → items.length < fuel →
    readAll fuel (streamOf items tail) =
      items.map (fun it => (normalize (headerOf (seekCollect 0 it.1)) it.2,
                            it.1.length + (writeBody it.2).length)) := by
  intro items
  induction items with
  | nil =>
    intro tail fuel _ ht hf
    obtain ⟨f, rfl⟩ : ∃ f, fuel = f + 1 := ⟨fuel - 1, by simp at hf; omega⟩
    simp [readAll, streamOf, readMessage_none tail ht]
  | cons it items ih =>
    intro tail fuel hI ht hf
    obtain ⟨f, rfl⟩ : ∃ f, fuel = f + 1 := ⟨fuel - 1, by simp at hf; omega⟩
    obtain ⟨pre, m⟩ := it
    have h0 := hI (pre, m) (List.mem_cons_self)
    simp only [streamOf, readAll, readMessage_prefix pre _ m h0.1 h0.2, List.map_cons]
    rw [← List.length_append, List.drop_left]
    congr 1
    exact ih tail f (fun it h => hI it (List.mem_cons_of_mem _ h)) ht (by simp at hf; omega)

end Bufr.Frame
