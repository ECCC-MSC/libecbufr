import BufrModel.Own
/-
  BufrProofs.Own — C16: the primitive steps of the ownership heap preserve well-formedness (each is an
  allocation in front, a release of a closed set of nodes, or a rewrite in place), freeing every root
  newest-first empties the heap, and the live counts move by exactly what a step allocates and releases.
-/
namespace Bufr.Own

theorem State.find?_spec (s : State) (i : Nat) (n : Node) (h : s.find? i = some n) : n ∈ s.nodes ∧ n.id = i :=
  ⟨List.mem_of_find?_eq_some h, by simpa using List.find?_some h⟩

theorem State.slot?_spec (s : State) (k r : Nat) (h : s.slot? k = some r) : ∃ hd ∈ s.handles, hd.1 = k ∧ hd.2 = r := by
  unfold State.slot? at h
  cases hf : s.handles.find? (fun h => h.1 = k) with
  | none => simp [hf] at h
  | some hd =>
    simp [hf] at h
    exact ⟨hd, List.mem_of_find?_eq_some hf, by simpa using List.find?_some hf, h⟩

theorem id_inj {s : State} (h : idsOK s) {a b : Node} (ha : a ∈ s.nodes) (hb : b ∈ s.nodes) (hab : a.id = b.id) : a = b :=
  List.Pairwise.forall_of_forall_of_flip (R := fun a b : Node => a.id = b.id → a = b) (fun _ _ _ => rfl)
    (h.1.imp fun hlt e => absurd e (by omega)) (h.1.imp fun hlt e => absurd e (by omega)) ha hb hab

theorem WF.ids {s : State} (h : WF s) : idsOK s := h.1

theorem WF.owners {s : State} (h : WF s) : ownersOK s := h.2.1

theorem WF.roots {s : State} (h : WF s) : rootsOK s := h.2.2.1

theorem WF.handles {s : State} (h : WF s) : handlesOK s := h.2.2.2.1

theorem WF.refs {s : State} (h : WF s) : refsOK s := h.2.2.2.2

theorem wf_empty : WF {} := by
  refine ⟨⟨List.Pairwise.nil, ?_⟩, ?_, ?_, ⟨?_, List.Pairwise.nil⟩, ?_⟩ <;> intro n hn <;> cases hn

theorem refOK_spec {s : State} {root : Nat} {r : Nat × Nat} (h : refOK s root r = true) :
    ∃ t ∈ s.nodes, t.id = r.2 ∧ t.root ≤ root := by
  unfold refOK at h
  rw [List.any_eq_true] at h
  obtain ⟨t, ht, hc⟩ := h
  simp only [Bool.decide_and, Bool.and_eq_true, decide_eq_true_eq] at hc
  exact ⟨t, ht, hc.1, hc.2⟩

/-- the clause of `ownersOK` for one node, with the live nodes as a parameter -/
def Owned (l : List Node) (n : Node) : Prop :=
  match n.owner with
  | none => n.root = n.id
  | some o => o < n.id ∧ ∃ p ∈ l, p.id = o ∧ p.root = n.root

theorem Owned.transfer {l l' : List Node} {n n' : Node} (h : Owned l n)
    (hid : n'.id = n.id) (ho : n'.owner = n.owner) (hr : n'.root = n.root)
    (hl : ∀ p ∈ l, n.owner = some p.id → p.root = n.root → ∃ q ∈ l', q.id = p.id ∧ q.root = p.root) :
    Owned l' n' := by
  unfold Owned at h ⊢
  rw [ho, hid, hr]
  cases hno : n.owner with
  | none => simpa [hno] using h
  | some o =>
    simp only [hno] at h ⊢
    obtain ⟨h1, p, hp, h2, h3⟩ := h
    obtain ⟨q, hq, h4, h5⟩ := hl p hp (by rw [hno, h2]) h3
    exact ⟨h1, q, hq, h4.trans h2, h5.trans h3⟩

theorem cons_wf (s : State) (m : Node) (hs : List (Nat × Nat)) (hw : WF s) (hid : m.id = s.next)
    (hown : Owned s.nodes m)
    (hroot : ∃ h ∈ hs, h.2 = m.root) (href : ∀ r ∈ m.refs, refOK s m.root r = true)
    (hsup : ∀ h ∈ s.handles, h ∈ hs) (hhand : handlesOK { nodes := m :: s.nodes, next := s.next + 1, handles := hs }) :
    WF { nodes := m :: s.nodes, next := s.next + 1, handles := hs } := by
  obtain ⟨hid0, hown0, hroot0, -, href0⟩ := hw
  refine ⟨⟨?_, ?_⟩, ?_, ?_, hhand, ?_⟩
  · exact List.pairwise_cons.mpr ⟨fun b hb => hid ▸ hid0.2 b hb, hid0.1⟩
  · intro n hn
    rcases List.mem_cons.mp hn with rfl | hn'
    · exact hid ▸ Nat.lt_succ_self _
    · exact Nat.lt_succ_of_lt (hid0.2 n hn')
  · intro n hn
    have : Owned s.nodes n := by
      rcases List.mem_cons.mp hn with rfl | hn'
      · exact hown
      · exact hown0 n hn'
    exact this.transfer rfl rfl rfl fun p hp _ _ => ⟨p, List.mem_cons_of_mem _ hp, rfl, rfl⟩
  · intro n hn
    rcases List.mem_cons.mp hn with rfl | hn'
    · exact hroot
    · obtain ⟨hd, hh, he⟩ := hroot0 n hn'
      exact ⟨hd, hsup hd hh, he⟩
  · intro n hn r hr
    have : ∃ t ∈ s.nodes, t.id = r.2 ∧ t.root ≤ n.root := by
      rcases List.mem_cons.mp hn with rfl | hn'
      · exact refOK_spec (href r hr)
      · exact href0 n hn' r hr
    obtain ⟨t, ht, h⟩ := this
    exact ⟨t, List.mem_cons_of_mem _ ht, h⟩

theorem filter_wf (s : State) (keep : Node → Bool) (hs : List (Nat × Nat)) (hw : WF s) (hsub : hs.Sublist s.handles)
    (hown : ∀ n ∈ s.nodes, keep n = true → ∀ p ∈ s.nodes, n.owner = some p.id → p.root = n.root → keep p = true)
    (href : ∀ n ∈ s.nodes, keep n = true → ∀ x ∈ n.refs, ∀ t ∈ s.nodes, t.id = x.2 → keep t = true)
    (hroot : ∀ n ∈ s.nodes, keep n = true → ∀ h ∈ s.handles, h.2 = n.root → h ∈ hs)
    (hhand : ∀ h ∈ hs, ∀ n ∈ s.nodes, n.id = h.2 → n.owner = none → keep n = true) :
    WF { s with nodes := s.nodes.filter keep, handles := hs } := by
  obtain ⟨hid0, hown0, hroot0, hhand0, href0⟩ := hw
  refine ⟨⟨hid0.1.filter _, fun n hn => hid0.2 n (List.mem_filter.mp hn).1⟩, ?_, ?_,
    ⟨?_, hhand0.2.sublist hsub⟩, ?_⟩
  · intro n hn
    obtain ⟨hn1, hn2⟩ := List.mem_filter.mp hn
    exact Owned.transfer (hown0 n hn1) rfl rfl rfl fun p hp ho hr =>
      ⟨p, List.mem_filter.mpr ⟨hp, hown n hn1 hn2 p hp ho hr⟩, rfl, rfl⟩
  · intro n hn
    obtain ⟨hn1, hn2⟩ := List.mem_filter.mp hn
    obtain ⟨hd, hh, he⟩ := hroot0 n hn1
    exact ⟨hd, hroot n hn1 hn2 hd hh he, he⟩
  · intro hd hh
    obtain ⟨n, hn, h1, h2⟩ := hhand0.1 hd (hsub.subset hh)
    exact ⟨n, List.mem_filter.mpr ⟨hn, hhand hd hh n hn h1 h2⟩, h1, h2⟩
  · intro n hn x hx
    obtain ⟨hn1, hn2⟩ := List.mem_filter.mp hn
    obtain ⟨t, ht, h1, h2⟩ := href0 n hn1 x hx
    exact ⟨t, List.mem_filter.mpr ⟨ht, href n hn1 hn2 x hx t ht h1⟩, h1, h2⟩

theorem map_wf (s : State) (g : Node → Node) (hw : WF s)
    (hsk : ∀ n, (g n).id = n.id ∧ (g n).owner = n.owner ∧ (g n).root = n.root)
    (hrf : ∀ n ∈ s.nodes, ∀ r ∈ (g n).refs, ∃ t ∈ s.nodes, t.id = r.2 ∧ t.root ≤ n.root) :
    WF { s with nodes := s.nodes.map g } := by
  obtain ⟨hid, hown, hroot, hhand, href⟩ := hw
  refine ⟨⟨?_, ?_⟩, ?_, ?_, ⟨?_, hhand.2⟩, ?_⟩
  · simp only [List.pairwise_map]
    exact hid.1.imp (fun {a b} hab => by rw [(hsk a).1, (hsk b).1]; exact hab)
  · intro n hn
    obtain ⟨m, hm, rfl⟩ := List.mem_map.mp hn
    rw [(hsk m).1]; exact hid.2 m hm
  · intro n hn
    obtain ⟨m, hm, rfl⟩ := List.mem_map.mp hn
    exact Owned.transfer (hown m hm) (hsk m).1 (hsk m).2.1 (hsk m).2.2 fun p hp _ _ =>
      ⟨g p, List.mem_map.mpr ⟨p, hp, rfl⟩, (hsk p).1, (hsk p).2.2⟩
  · intro n hn
    obtain ⟨m, hm, rfl⟩ := List.mem_map.mp hn
    rw [(hsk m).2.2]; exact hroot m hm
  · intro hd hh
    obtain ⟨n, hn, h1, h2⟩ := hhand.1 hd hh
    exact ⟨g n, List.mem_map.mpr ⟨n, hn, rfl⟩, by rw [(hsk n).1]; exact h1, by rw [(hsk n).2.1]; exact h2⟩
  · intro n hn r hr
    obtain ⟨m, hm, rfl⟩ := List.mem_map.mp hn
    obtain ⟨t, ht, h1, h2⟩ := hrf m hm r hr
    exact ⟨g t, List.mem_map.mpr ⟨t, ht, rfl⟩, by rw [(hsk t).1]; exact h1, by rw [(hsk t).2.2, (hsk m).2.2]; exact h2⟩

theorem allocRoot_wf (s s' : State) (slot : Nat) (kind : Kind) (pay : Pay) (refs : List (Nat × Nat))
    (hw : WF s) (h : (Prim.allocRoot slot kind pay refs).exec s = some s') : WF s' := by
  simp only [Prim.exec] at h
  split at h
  · next hg =>
    obtain ⟨hslot, hrefs⟩ := hg
    injection h with h; subst h
    rw [List.all_eq_true] at hslot hrefs
    refine cons_wf s _ _ hw rfl (rfl : _ = _) ⟨_, List.mem_cons_self, rfl⟩ hrefs
      (fun _ hh => List.mem_cons_of_mem _ hh) ⟨?_, List.pairwise_cons.mpr ⟨?_, hw.handles.2⟩⟩
    · intro hd hh
      rcases List.mem_cons.mp hh with rfl | hh'
      · exact ⟨_, List.mem_cons_self, rfl, rfl⟩
      · obtain ⟨n, hn, h1⟩ := hw.handles.1 hd hh'
        exact ⟨n, List.mem_cons_of_mem _ hn, h1⟩
    · intro hd hh
      obtain ⟨n, hn, hn1, -⟩ := hw.handles.1 hd hh
      have := hw.ids.2 n hn
      have h2 : hd.1 ≠ slot := by simpa using hslot hd hh
      exact ⟨fun e => h2 e.symm, show s.next ≠ hd.2 by omega⟩
  · cases h

theorem allocChild_wf (s s' : State) (owner role : Nat) (kind : Kind) (pay : Pay) (refs : List (Nat × Nat))
    (hw : WF s) (h : (Prim.allocChild owner role kind pay refs).exec s = some s') : WF s' := by
  simp only [Prim.exec] at h
  split at h
  · cases h
  · next p hf =>
    obtain ⟨hp, hpid⟩ := s.find?_spec owner p hf
    split at h
    · next hrefs =>
      injection h with h; subst h
      rw [List.all_eq_true] at hrefs
      have hlt : owner < s.next := by
        have := hw.ids.2 p hp
        omega
      refine cons_wf s _ _ hw rfl ⟨hlt, p, hp, hpid, rfl⟩ (hw.roots p hp) hrefs (fun _ hh => hh) ⟨?_, hw.handles.2⟩
      intro hd hh
      obtain ⟨n, hn, h1⟩ := hw.handles.1 hd hh
      exact ⟨n, List.mem_cons_of_mem _ hn, h1⟩
    · cases h

theorem noRefInto_iff (s : State) (r : Nat) : noRefInto s r = true ↔
    ∀ n ∈ s.nodes, n.root ≠ r → ∀ x ∈ n.refs, ∀ t ∈ s.nodes, t.id = x.2 → t.root ≠ r := by
  simp only [noRefInto, List.all_eq_true, Bool.or_eq_true, decide_eq_true_eq, ne_eq, decide_not,
    Bool.not_eq_eq_eq_not, Bool.not_true, decide_eq_false_iff_not, Decidable.or_iff_not_imp_left, Decidable.not_not]

theorem freeRoot_wf (s s' : State) (slot : Nat)
    (hw : WF s) (h : (Prim.freeRoot slot).exec s = some s') : WF s' := by
  simp only [Prim.exec] at h
  split at h
  · cases h
  · next r hs =>
    split at h
    · next hg =>
      injection h with h; subst h
      have hno := (noRefInto_iff s r).mp hg
      refine filter_wf s _ _ hw List.filter_sublist ?_ ?_ ?_ ?_
      · intro n _ hk p _ _ hpr
        rw [hpr]; exact hk
      · intro n hn hk x hx t ht htx
        simpa using hno n hn (by simpa using hk) x hx t ht htx
      · intro n _ hk hd hh he
        exact List.mem_filter.mpr ⟨hh, by rw [he]; exact hk⟩
      · intro hd hh n hn h1 h2
        have := hw.owners n hn
        simp only [h2] at this
        rw [this, h1]; exact (List.mem_filter.mp hh).2
    · cases h

theorem freeLeaf_wf (s s' : State) (i : Nat)
    (hw : WF s) (h : (Prim.freeLeaf i).exec s = some s') : WF s' := by
  simp only [Prim.exec] at h
  split at h
  · next hg =>
    obtain ⟨hex, hnoown, hnoref⟩ := hg
    injection h with h; subst h
    rw [List.any_eq_true] at hex
    rw [List.all_eq_true] at hnoown hnoref
    obtain ⟨m, hm, hmc⟩ := hex
    simp only [ne_eq, Bool.decide_and, decide_not, Bool.and_eq_true, decide_eq_true_eq, Bool.not_eq_eq_eq_not,
      Bool.not_true, decide_eq_false_iff_not] at hmc
    refine filter_wf s _ _ hw (List.Sublist.refl _) ?_ ?_ (fun _ _ _ _ hh _ => hh) ?_
    · intro n hn _ p _ ho _
      simpa [ho] using hnoown n hn
    · intro n hn hk x hx t _ htx
      have := hnoref n hn
      simp only [ne_eq, decide_not, Bool.or_eq_true, decide_eq_true_eq, List.all_eq_true, Bool.not_eq_eq_eq_not,
        Bool.not_true, decide_eq_false_iff_not] at this
      rcases this with this | this
      · simp [this] at hk
      · simpa [htx] using this x hx
    · intro hd _ n hn h1 h2
      have : n.id ≠ i := by
        intro hni
        have : n = m := id_inj hw.ids hn hm (by rw [hni, hmc.1])
        subst this
        exact hmc.2 h2
      simpa using this
  · cases h

theorem mapAt_wf (s : State) (i : Nat) (g : Node → Node) (hw : WF s)
    (hsk : ∀ n, (g n).id = n.id ∧ (g n).owner = n.owner ∧ (g n).root = n.root)
    (hrf : ∀ n ∈ s.nodes, n.id = i → ∀ r ∈ (g n).refs, ∃ t ∈ s.nodes, t.id = r.2 ∧ t.root ≤ n.root) :
    WF { s with nodes := s.nodes.map fun n => if n.id = i then g n else n } := by
  refine map_wf s _ hw (fun n => ?_) (fun n hn r hr => ?_)
  · split
    · exact hsk n
    · exact ⟨rfl, rfl, rfl⟩
  · split at hr
    · next hni => exact hrf n hn hni r hr
    · exact hw.refs n hn r hr

theorem setPay_wf (s s' : State) (i : Nat) (pay : Pay)
    (hw : WF s) (h : (Prim.setPay i pay).exec s = some s') : WF s' := by
  simp only [Prim.exec] at h
  split at h
  · injection h with h; subst h
    exact mapAt_wf s i (fun n => { n with pay := pay }) hw (fun _ => ⟨rfl, rfl, rfl⟩) fun n hn _ => hw.refs n hn
  · cases h

theorem setExt_wf (s s' : State) (i : Nat) (ext : List (Nat × Nat))
    (hw : WF s) (h : (Prim.setExt i ext).exec s = some s') : WF s' := by
  simp only [Prim.exec] at h
  split at h
  · injection h with h; subst h
    exact mapAt_wf s i (fun n => { n with ext := ext }) hw (fun _ => ⟨rfl, rfl, rfl⟩) fun n hn _ => hw.refs n hn
  · cases h

theorem setRefs_wf (s s' : State) (i : Nat) (refs : List (Nat × Nat))
    (hw : WF s) (h : (Prim.setRefs i refs).exec s = some s') : WF s' := by
  simp only [Prim.exec] at h
  split at h
  · cases h
  · next n0 hf =>
    obtain ⟨hn0, hn0id⟩ := s.find?_spec i n0 hf
    split at h
    · next hrefs =>
      injection h with h; subst h
      rw [List.all_eq_true] at hrefs
      refine mapAt_wf s i (fun m => { m with refs := refs }) hw (fun _ => ⟨rfl, rfl, rfl⟩) fun n hn hni r hr => ?_
      cases id_inj hw.ids hn hn0 (hni.trans hn0id.symm)
      exact refOK_spec (hrefs r hr)
    · cases h

theorem exec_wf (s s' : State) (p : Prim) (hw : WF s) (h : p.exec s = some s') : WF s' := by
  cases p with
  | allocRoot slot kind pay refs => exact allocRoot_wf s s' slot kind pay refs hw h
  | allocChild owner role kind pay refs => exact allocChild_wf s s' owner role kind pay refs hw h
  | freeRoot slot => exact freeRoot_wf s s' slot hw h
  | freeLeaf i => exact freeLeaf_wf s s' i hw h
  | setPay i pay => exact setPay_wf s s' i pay hw h
  | setRefs i refs => exact setRefs_wf s s' i refs hw h
  | setExt i ext => exact setExt_wf s s' i ext hw h

theorem execAll_wf : ∀ (ps : List Prim) (s s' : State), WF s → execAll s ps = some s' → WF s' := by
  intro ps
  induction ps with
  | nil => intro s s' hw h; simp [execAll] at h; subst h; exact hw
  | cons p ps ih =>
    intro s s' hw h
    unfold execAll at h
    split at h
    · cases h
    · next s1 h1 => exact ih s1 s' (exec_wf s s1 p hw h1) h

theorem step_wf (s s' : State) (op : Op) (hw : WF s) (h : step s op = some s') : WF s' := by
  unfold step at h
  split at h
  · cases h
  · next ps _ => exact execAll_wf ps s s' hw h

theorem run_wf : ∀ (ops : List Op) (s s' : State), WF s → run s ops = some s' → WF s' := by
  intro ops
  induction ops with
  | nil => intro s s' hw h; simp [run] at h; subst h; exact hw
  | cons op ops ih =>
    intro s s' hw h
    unfold run at h
    split at h
    · cases h
    · next s1 h1 => exact ih s1 s' (step_wf s s1 op hw h1) h

theorem maxHandle_none (hs : List (Nat × Nat)) (h : maxHandle hs = none) : hs = [] := by
  cases hs with
  | nil => rfl
  | cons x xs =>
    unfold maxHandle at h
    split at h
    · cases h
    · split at h <;> cases h

theorem maxHandle_some : ∀ (hs : List (Nat × Nat)) (h : Nat × Nat), maxHandle hs = some h →
    h ∈ hs ∧ ∀ g ∈ hs, g.2 ≤ h.2 := by
  intro hs
  induction hs with
  | nil => intro h hm; cases hm
  | cons x xs ih =>
    intro h hm
    unfold maxHandle at hm
    split at hm
    · next hx =>
      injection hm with hm; subst hm
      rw [maxHandle_none xs hx]
      exact ⟨List.mem_cons_self, fun g hg => by rw [List.mem_singleton.mp hg]; exact Nat.le_refl _⟩
    · next m hx =>
      obtain ⟨hmem, hmax⟩ := ih m hx
      split at hm <;> injection hm with hm <;> subst hm
      · next hlt =>
        refine ⟨List.mem_cons_self, fun g hg => ?_⟩
        rcases List.mem_cons.mp hg with rfl | hg'
        · exact Nat.le_refl _
        · exact Nat.le_trans (hmax g hg') (Nat.le_of_lt hlt)
      · next hlt =>
        refine ⟨List.mem_cons_of_mem _ hmem, fun g hg => ?_⟩
        rcases List.mem_cons.mp hg with rfl | hg'
        · exact Nat.le_of_not_lt hlt
        · exact hmax g hg'

theorem find?_slot_unique : ∀ (hs : List (Nat × Nat)), hs.Pairwise (fun a b => a.1 ≠ b.1 ∧ a.2 ≠ b.2) →
    ∀ h ∈ hs, hs.find? (fun g => g.1 = h.1) = some h := by
  intro hs
  induction hs with
  | nil => intro _ h hh; cases hh
  | cons x xs ih =>
    intro hp h hh
    rw [List.pairwise_cons] at hp
    rcases List.mem_cons.mp hh with rfl | hh'
    · simp
    · have hne := (hp.1 h hh').1
      rw [List.find?_cons_of_neg (by simpa using hne)]
      exact ih hp.2 h hh'

/-- the newest root can always be released: nothing older can point into it -/
theorem freeRoot_newest (s : State) (hw : WF s) (h : Nat × Nat) (hm : maxHandle s.handles = some h) :
    ∃ s', (Prim.freeRoot h.1).exec s = some s' ∧ WF s' ∧ s'.handles.length < s.handles.length := by
  obtain ⟨hid, hown, hroot, hhand, href⟩ := hw
  obtain ⟨hmem, hmax⟩ := maxHandle_some s.handles h hm
  have hslot : s.slot? h.1 = some h.2 := by
    unfold State.slot?
    rw [find?_slot_unique s.handles hhand.2 h hmem]; rfl
  have hno : noRefInto s h.2 = true := by
    rw [noRefInto_iff]
    intro n hn hnr x hx t ht htx htr
    obtain ⟨t', ht', h1, h2⟩ := href n hn x hx
    have : t' = t := id_inj hid ht' ht (by rw [h1, htx])
    subst this
    obtain ⟨g, hg, hge⟩ := hroot n hn
    have := hmax g hg
    omega
  have hex : (Prim.freeRoot h.1).exec s =
      some { s with nodes := s.nodes.filter (fun n => n.root ≠ h.2), handles := s.handles.filter (fun g => g.2 ≠ h.2) } := by
    simp only [Prim.exec, hslot, hno, if_true]
  refine ⟨_, hex, freeRoot_wf s _ h.1 ⟨hid, hown, hroot, hhand, href⟩ hex, ?_⟩
  simp only
  exact List.length_filter_lt_length_iff_exists.mpr ⟨h, hmem, by simp⟩

theorem nodes_nil_of_handles_nil {s : State} (hw : WF s) (hh : s.handles = []) : s.nodes = [] := by
  cases hn : s.nodes with
  | nil => rfl
  | cons n ns =>
    obtain ⟨g, hg, _⟩ := hw.roots n (by rw [hn]; exact List.mem_cons_self)
    rw [hh] at hg; cases hg

theorem freeAllF_spec : ∀ (f : Nat) (s : State), WF s → s.handles.length ≤ f →
    ∃ s', freeAllF f s = some s' ∧ s'.nodes = [] ∧ s'.handles = [] := by
  intro f
  induction f with
  | zero =>
    intro s hw hl
    have hh : s.handles = [] := List.eq_nil_of_length_eq_zero (by omega)
    exact ⟨s, rfl, nodes_nil_of_handles_nil hw hh, hh⟩
  | succ f ih =>
    intro s hw hl
    unfold freeAllF
    cases hm : maxHandle s.handles with
    | none =>
      have hh := maxHandle_none _ hm
      exact ⟨s, rfl, nodes_nil_of_handles_nil hw hh, hh⟩
    | some h =>
      obtain ⟨s1, h1, hw1, hlt⟩ := freeRoot_newest s hw h hm
      simp only [h1]
      exact ih s1 hw1 (by omega)

theorem freeAll_spec (s : State) (hw : WF s) : ∃ s', freeAll s = some s' ∧ s'.nodes = [] ∧ s'.handles = [] :=
  freeAllF_spec s.handles.length s hw (Nat.le_refl _)

theorem countNodes_cons (n : Node) (ns : List Node) (k : Kind) : countNodes (n :: ns) k = n.count k + countNodes ns k := by
  simp [countNodes]

theorem countNodes_nil (k : Kind) : countNodes [] k = 0 := rfl

theorem countNodes_filter_split (p : Node → Prop) [DecidablePred p] (ns : List Node) (k : Kind) :
    countNodes (ns.filter fun n => ¬ p n) k + countNodes (ns.filter fun n => p n) k = countNodes ns k := by
  induction ns with
  | nil => rfl
  | cons n ns ih =>
    by_cases hp : p n
    · rw [List.filter_cons_of_neg (by simpa using hp), List.filter_cons_of_pos (by simpa using hp),
        countNodes_cons, countNodes_cons]
      omega
    · rw [List.filter_cons_of_pos (by simpa using hp), List.filter_cons_of_neg (by simpa using hp),
        countNodes_cons, countNodes_cons]
      omega

/-- what a primitive allocates, per kind, in state `s` -/
def Prim.allocated (s : State) (k : Kind) : Prim → Nat
  | .allocRoot _ kind pay _ => (if kind = k then 1 else 0) + pay.count k
  | .allocChild _ _ kind pay _ => (if kind = k then 1 else 0) + pay.count k
  | .setPay i pay => (s.nodes.filter (fun n => n.id = i)).length * pay.count k
  | _ => 0

/-- what a primitive releases, per kind, in state `s` -/
def Prim.freed (s : State) (k : Kind) : Prim → Nat
  | .freeRoot slot => match s.slot? slot with
    | some r => countNodes (s.nodes.filter (fun n => n.root = r)) k
    | none => 0
  | .freeLeaf i => countNodes (s.nodes.filter (fun n => n.id = i)) k
  | .setPay i _ => ((s.nodes.filter (fun n => n.id = i)).map (fun n => n.pay.count k)).sum
  | _ => 0

theorem countNodes_map_same (g : Node → Node) (k : Kind) (h : ∀ n, (g n).count k = n.count k) :
    ∀ ns : List Node, countNodes (ns.map g) k = countNodes ns k := by
  intro ns
  induction ns with
  | nil => rfl
  | cons n ns ih => rw [List.map_cons, countNodes_cons, countNodes_cons, ih, h]

theorem countNodes_setPay (i : Nat) (pay : Pay) (k : Kind) : ∀ ns : List Node,
    countNodes (ns.map fun n => if n.id = i then { n with pay := pay } else n) k +
      ((ns.filter (fun n => n.id = i)).map (fun n => n.pay.count k)).sum =
    countNodes ns k + (ns.filter (fun n => n.id = i)).length * pay.count k := by
  intro ns
  induction ns with
  | nil => simp [countNodes]
  | cons n ns ih =>
    rw [List.map_cons, countNodes_cons, countNodes_cons]
    by_cases hn : n.id = i
    · rw [List.filter_cons_of_pos (by simpa using hn), if_pos hn]
      simp only [List.map_cons, List.sum_cons, List.length_cons, Node.count]
      rw [Nat.succ_mul]
      omega
    · rw [List.filter_cons_of_neg (by simpa using hn), if_neg hn]
      omega

/-- every primitive moves the live counts by exactly what it allocates and releases -/
theorem exec_count (s s' : State) (p : Prim) (k : Kind) (h : p.exec s = some s') :
    s'.count k + p.freed s k = s.count k + p.allocated s k := by
  cases p with
  | allocRoot slot kind pay refs =>
    simp only [Prim.exec] at h
    split at h
    · injection h with h; subst h
      simp [State.count, countNodes_cons, Node.count, Prim.freed, Prim.allocated]
      omega
    · cases h
  | allocChild owner role kind pay refs =>
    simp only [Prim.exec] at h
    split at h
    · cases h
    · split at h
      · injection h with h; subst h
        simp [State.count, countNodes_cons, Node.count, Prim.freed, Prim.allocated]
        omega
      · cases h
  | freeRoot slot =>
    simp only [Prim.exec] at h
    split at h
    · cases h
    · next r hs =>
      split at h
      · injection h with h; subst h
        simp only [State.count, Prim.freed, Prim.allocated, hs]
        exact countNodes_filter_split (fun n => n.root = r) s.nodes k
      · cases h
  | freeLeaf i =>
    simp only [Prim.exec] at h
    split at h
    · injection h with h; subst h
      simp only [State.count, Prim.freed, Prim.allocated]
      exact countNodes_filter_split (fun n => n.id = i) s.nodes k
    · cases h
  | setPay i pay =>
    simp only [Prim.exec] at h
    split at h
    · injection h with h; subst h
      simp only [State.count, Prim.freed, Prim.allocated]
      exact countNodes_setPay i pay k s.nodes
    · cases h
  | setRefs i refs =>
    simp only [Prim.exec] at h
    split at h
    · cases h
    · split at h
      · injection h with h; subst h
        simp only [State.count, Prim.freed, Prim.allocated, Nat.add_zero]
        apply countNodes_map_same
        intro n; split <;> rfl
      · cases h
  | setExt i ext =>
    simp only [Prim.exec] at h
    split at h
    · injection h with h; subst h
      simp only [State.count, Prim.freed, Prim.allocated, Nat.add_zero]
      apply countNodes_map_same
      intro n; split <;> rfl
    · cases h

/-- allocations and releases of a plan, summed along its execution -/
def planAllocated (k : Kind) : State → List Prim → Nat
  | _, [] => 0
  | s, p :: ps => p.allocated s k + (match p.exec s with | some s' => planAllocated k s' ps | none => 0)

def planFreed (k : Kind) : State → List Prim → Nat
  | _, [] => 0
  | s, p :: ps => p.freed s k + (match p.exec s with | some s' => planFreed k s' ps | none => 0)

theorem execAll_count (k : Kind) : ∀ (ps : List Prim) (s s' : State), execAll s ps = some s' →
    s'.count k + planFreed k s ps = s.count k + planAllocated k s ps := by
  intro ps
  induction ps with
  | nil => intro s s' h; simp [execAll] at h; subst h; simp [planFreed, planAllocated]
  | cons p ps ih =>
    intro s s' h
    unfold execAll at h
    split at h
    · cases h
    · next s1 h1 =>
      have e1 := exec_count s s1 p k h1
      have e2 := ih s1 s' h
      simp only [planFreed, planAllocated, h1]
      omega

theorem count_of_nodes_nil (s : State) (h : s.nodes = []) (k : Kind) : s.count k = 0 := by
  simp [State.count, h, countNodes]

end Bufr.Own
