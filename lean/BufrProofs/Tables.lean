import BufrModel.Tables
/-
  The table store (C12).  Under the cache invariant `CacheInv`, `bufr_fetch_tableB` returns what
  `lookupSpec` says, for any `bsearch`/`qsort` that meets the C standard's contract (`fetchB_spec`, T-Cache
  of DESIGN §3), and loading and merging tables keep the invariant.  Then version selection, the Table D
  loop check, and the fixed-column reader of a Table B line.
-/
namespace Bufr.Tbl

/-- what the C standard promises about `bsearch` and `qsort` -/
structure Libc.Contract (L : Libc) : Prop where
  /-- `bsearch` only ever returns an element that compares equal -/
  bsearch_sound : ∀ keys k i, L.bsearch keys k = some i → keys[i]? = some k
  /-- on an array sorted by the comparison function it finds an equal element if there is one -/
  bsearch_complete : ∀ keys k, keys.Pairwise (· ≤ ·) → k ∈ keys → (L.bsearch keys k).isSome = true
  qsort_perm : ∀ {α : Type} (f : α → Nat) (xs : List α), (L.qsort f xs).Perm xs
  qsort_sorted : ∀ {α : Type} (f : α → Nat) (xs : List α), (L.qsort f xs).Pairwise (fun a b => f a ≤ f b)

theorem getElem?_eq_some_getD {keys : List Nat} {i : Nat} (hi : i < keys.length) :
    keys[i]? = some (keys.getD i 0) := by
  rw [List.getD_eq_getElem?_getD, List.getElem?_eq_getElem hi]; rfl

theorem bsearchGo_sound (keys : List Nat) (k : Nat) :
    ∀ fuel l u i, u ≤ keys.length → bsearchGo keys k fuel l u = some i → keys[i]? = some k := by
  intro fuel
  induction fuel with
  | zero => intro l u i _ h; simp [bsearchGo] at h
  | succ n ih =>
    intro l u i hu h
    unfold bsearchGo at h
    by_cases hlu : l < u
    · simp only [hlu, if_true] at h
      have hidx : (l + u) / 2 < keys.length := by omega
      by_cases h1 : k < keys.getD ((l + u) / 2) 0
      · simp only [h1, if_true] at h
        exact ih l ((l + u) / 2) i (by omega) h
      · simp only [h1, if_false] at h
        by_cases h2 : keys.getD ((l + u) / 2) 0 < k
        · simp only [h2, if_true] at h
          exact ih ((l + u) / 2 + 1) u i hu h
        · simp only [h2, if_false] at h
          injection h with h
          subst h
          rw [getElem?_eq_some_getD hidx]
          congr 1
          omega
    · simp [hlu] at h

theorem bsearchGo_complete (keys : List Nat) (k : Nat) (hs : keys.Pairwise (· ≤ ·)) :
    ∀ fuel l u, u ≤ keys.length → u - l < fuel →
      (∃ j, l ≤ j ∧ j < u ∧ keys[j]? = some k) → (bsearchGo keys k fuel l u).isSome = true := by
  have hmono : ∀ i j, i ≤ j → j < keys.length → keys.getD i 0 ≤ keys.getD j 0 := by
    intro i j hij hj
    rcases Nat.lt_or_eq_of_le hij with hlt | rfl
    · have := List.pairwise_iff_getElem.mp hs i j (by omega) hj hlt
      rw [List.getD_eq_getElem?_getD, List.getD_eq_getElem?_getD, List.getElem?_eq_getElem hj,
        List.getElem?_eq_getElem (by omega : i < keys.length)]
      exact this
    · exact Nat.le_refl _
  intro fuel
  induction fuel with
  | zero => intro l u _ h; omega
  | succ n ih =>
    intro l u hu hf ⟨j, hlj, hju, hj⟩
    have hjk : keys.getD j 0 = k := by rw [getElem?_eq_some_getD (by omega)] at hj; exact Option.some.inj hj
    unfold bsearchGo
    rw [if_pos (by omega : l < u)]
    dsimp only
    have hm1 : l ≤ (l + u) / 2 := by omega
    have hm2 : (l + u) / 2 < u := by omega
    generalize (l + u) / 2 = mid at hm1 hm2 ⊢
    -- the key sits on the side of the midpoint the comparison points to
    by_cases h1 : k < keys.getD mid 0
    · rw [if_pos h1]
      refine ih l _ (by omega) (by omega) ⟨j, hlj, Nat.lt_of_not_le fun hge => ?_, hj⟩
      have := hmono mid j hge (by omega)
      omega
    · rw [if_neg h1]
      by_cases h2 : keys.getD mid 0 < k
      · rw [if_pos h2]
        refine ih _ u hu (by omega) ⟨j, Nat.lt_of_not_le fun hle => ?_, hju, hj⟩
        have := hmono j mid hle (by omega)
        omega
      · rw [if_neg h2]; rfl

theorem insertBy_perm {α : Type} (f : α → Nat) (x : α) (ys : List α) : (insertBy f x ys).Perm (x :: ys) := by
  induction ys with
  | nil => simp [insertBy]
  | cons y ys ih =>
    unfold insertBy
    by_cases h : f x ≤ f y
    · simp [h]
    · simp only [h, if_false]
      exact (List.Perm.cons y ih).trans (List.Perm.swap x y ys)

theorem insertBy_sorted {α : Type} (f : α → Nat) (x : α) (ys : List α)
    (h : ys.Pairwise (fun a b => f a ≤ f b)) : (insertBy f x ys).Pairwise (fun a b => f a ≤ f b) := by
  induction ys with
  | nil => simp [insertBy]
  | cons y ys ih =>
    unfold insertBy
    rw [List.pairwise_cons] at h
    by_cases hxy : f x ≤ f y
    · simp only [hxy, if_true]
      rw [List.pairwise_cons]
      refine ⟨?_, List.pairwise_cons.mpr h⟩
      intro a ha
      rcases List.mem_cons.mp ha with rfl | ha
      · exact hxy
      · exact Nat.le_trans hxy (h.1 a ha)
    · simp only [hxy, if_false]
      rw [List.pairwise_cons]
      refine ⟨?_, ih h.2⟩
      intro a ha
      have := (insertBy_perm f x ys).mem_iff.mp ha
      rcases List.mem_cons.mp this with rfl | ha'
      · omega
      · exact h.1 a ha'

theorem isort_perm {α : Type} (f : α → Nat) (xs : List α) : (isort f xs).Perm xs := by
  induction xs with
  | nil => simp [isort]
  | cons x xs ih =>
    have : isort f (x :: xs) = insertBy f x (isort f xs) := rfl
    rw [this]
    exact (insertBy_perm f x _).trans (List.Perm.cons x ih)

theorem isort_sorted {α : Type} (f : α → Nat) (xs : List α) : (isort f xs).Pairwise (fun a b => f a ≤ f b) := by
  induction xs with
  | nil => simp [isort]
  | cons x xs ih =>
    have : isort f (x :: xs) = insertBy f x (isort f xs) := rfl
    rw [this]
    exact insertBy_sorted f x _ ih

/-- the routines the driver runs meet the contracts -/
theorem glibc_contract : glibc.Contract where
  bsearch_sound := by
    intro keys k i h
    exact bsearchGo_sound keys k _ 0 keys.length i (Nat.le_refl _) h
  bsearch_complete := by
    intro keys k hs hk
    obtain ⟨j, hj, hjk⟩ := List.mem_iff_getElem.mp hk
    apply bsearchGo_complete keys k hs _ 0 keys.length (Nat.le_refl _) (by omega)
    exact ⟨j, Nat.zero_le _, hj, by rw [List.getElem?_eq_getElem hj, hjk]⟩
  qsort_perm := fun f xs => isort_perm f xs
  qsort_sorted := fun f xs => isort_sorted f xs

/-- what a correct search of the array returns: the first pointer whose entry has key `d` -/
def findId (h : Heap) (arr : List Nat) (d : Nat) : Option Nat := arr.find? (fun id => keyOf h id == d)

def lookupArr (h : Heap) (arr : List Nat) (d : Nat) : Option EntryB := (findId h arr d).bind (deref h)

theorem keysOf_getElem? (h : Heap) (arr : List Nat) (i : Nat) :
    (keysOf h arr)[i]? = (arr[i]?).map (keyOf h) := by
  unfold keysOf; rw [List.getElem?_map]

theorem lt_pairwise_le {l : List Nat} (hs : l.Pairwise (· < ·)) : l.Pairwise (· ≤ ·) :=
  hs.imp (fun h => Nat.le_of_lt h)

theorem lt_pairwise_nodup {l : List Nat} (hs : l.Pairwise (· < ·)) : l.Nodup :=
  hs.imp Nat.ne_of_lt

theorem nodup_snoc {l : List Nat} {a : Nat} (hl : l.Nodup) (ha : a ∉ l) : (l ++ [a]).Nodup := by
  rw [List.nodup_append]
  refine ⟨hl, List.pairwise_singleton _ a, ?_⟩
  intro x hx b hb hxb
  rw [List.mem_singleton] at hb
  exact ha (hb ▸ hxb ▸ hx)

theorem le_nodup_pairwise_lt {l : List Nat} (h1 : l.Pairwise (· ≤ ·)) (h2 : l.Nodup) : l.Pairwise (· < ·) := by
  rw [List.nodup_iff_pairwise_ne] at h2
  exact (h1.and h2).imp (fun h => Nat.lt_of_le_of_ne h.1 h.2)

theorem sortB_sorted (L : Libc) (hL : L.Contract) (h : Heap) (arr : List Nat) (hn : (keysOf h arr).Nodup) :
    (sortB L h arr).Perm arr ∧ (keysOf h (sortB L h arr)).Pairwise (· < ·) := by
  have hperm : (sortB L h arr).Perm arr := hL.qsort_perm _ _
  refine ⟨hperm, le_nodup_pairwise_lt ?_ ((hperm.map (keyOf h)).nodup_iff.mpr hn)⟩
  unfold keysOf; rw [List.pairwise_map]; exact hL.qsort_sorted _ _

theorem findId_mem {h : Heap} {arr : List Nat} {d id : Nat} (hf : findId h arr d = some id) :
    id ∈ arr ∧ keyOf h id = d := by
  unfold findId at hf
  exact ⟨List.mem_of_find?_eq_some hf, by simpa using List.find?_some hf⟩

theorem findId_eq_none_iff {h : Heap} {arr : List Nat} {d : Nat} : findId h arr d = none ↔ d ∉ keysOf h arr := by
  simp [findId, keysOf]

theorem findId_none {h : Heap} {arr : List Nat} {d : Nat} (hf : findId h arr d = none) : d ∉ keysOf h arr :=
  findId_eq_none_iff.mp hf

theorem findId_unique {h : Heap} {arr : List Nat} {d id : Nat} (hn : (keysOf h arr).Nodup)
    (hmem : id ∈ arr) (hk : keyOf h id = d) : findId h arr d = some id := by
  unfold findId keysOf at *
  induction arr with
  | nil => cases hmem
  | cons a rest ih =>
    rw [List.map_cons, List.nodup_cons] at hn
    rcases List.mem_cons.mp hmem with rfl | hr
    · exact List.find?_cons_of_pos (by simpa using hk)
    · -- an earlier pointer with key `d` would repeat the key of `id`
      have hne : keyOf h a ≠ d := fun hka => hn.1 (hka ▸ hk ▸ List.mem_map_of_mem hr)
      rw [List.find?_cons_of_neg (by simpa using hne)]
      exact ih hn.2 hr

theorem searchB_sound (L : Libc) (hL : L.Contract) (h : Heap) (arr : List Nat) (d id : Nat)
    (hs : searchB L h arr d = some id) : id ∈ arr ∧ keyOf h id = d := by
  unfold searchB at hs
  cases hb : L.bsearch (keysOf h arr) d with
  | none => rw [hb] at hs; cases hs
  | some i =>
    have hsnd := hL.bsearch_sound _ _ _ hb
    rw [keysOf_getElem?] at hsnd
    obtain ⟨x, hi, hk⟩ := Option.map_eq_some_iff.mp hsnd
    rw [hb, Option.map_some, List.getD_eq_getElem?_getD, hi] at hs
    cases hs
    exact ⟨List.mem_of_getElem? hi, hk⟩

theorem searchB_eq_findId (L : Libc) (hL : L.Contract) (h : Heap) (arr : List Nat) (d : Nat)
    (hs : (keysOf h arr).Pairwise (· < ·)) : searchB L h arr d = findId h arr d := by
  cases hb : searchB L h arr d with
  | some id =>
    obtain ⟨hm, hk⟩ := searchB_sound L hL h arr d id hb
    exact (findId_unique (lt_pairwise_nodup hs) hm hk).symm
  | none =>
    rw [eq_comm, findId_eq_none_iff]
    intro hmem
    have := hL.bsearch_complete _ _ (lt_pairwise_le hs) hmem
    unfold searchB at hb
    cases hi : L.bsearch (keysOf h arr) d with
    | none => rw [hi] at this; cases this
    | some i => rw [hi] at hb; cases hb

/-- the Table B entries of a set, as values, in array order -/
def contentB (h : Heap) (arr : Option (List Nat)) : List EntryB := (arr.getD []).filterMap (deref h)

def findE (es : List EntryB) (d : Nat) : Option EntryB := es.find? (fun e => e.desc == d)

def isNonB (d : Nat) : Prop := fOf d = 1 ∨ fOf d = 2 ∨ fOf d = 3

instance (d : Nat) : Decidable (isNonB d) := by unfold isNonB; exact inferInstance

/-- **the specification**: Table C/D/replication descriptors have no entry; otherwise the local
entry if there is one, else the master entry -/
def lookupSpec (loc mas : List EntryB) (d : Nat) : Option EntryB :=
  if isNonB d then none
  else match findE loc d with
    | some e => some e
    | none => findE mas d

def AllLive (h : Heap) (arr : List Nat) : Prop := ∀ id ∈ arr, ∃ e, deref h id = some e

theorem keyOf_of_deref {h : Heap} {id : Nat} {e : EntryB} (he : deref h id = some e) : keyOf h id = e.desc := by
  unfold keyOf; rw [he]

theorem findE_content (h : Heap) (arr : Option (List Nat)) (d : Nat) (hl : AllLive h (arr.getD [])) :
    findE (contentB h arr) d = lookupArr h (arr.getD []) d := by
  unfold findE contentB lookupArr findId
  generalize arr.getD [] = a at hl ⊢
  induction a with
  | nil => simp
  | cons id rest ih =>
    obtain ⟨e, he⟩ := hl id (List.mem_cons_self)
    rw [List.filterMap_cons, he]
    simp only [List.find?_cons, keyOf_of_deref he]
    by_cases hk : e.desc == d
    · simp [hk, he]
    · simp only [hk]
      exact ih (fun x hx => hl x (List.mem_cons_of_mem _ hx))

/-- a set (master or local Table B) is in order: pointers live, keys strictly increasing -/
structure SetOK (h : Heap) (arr : Option (List Nat)) : Prop where
  live : AllLive h (arr.getD [])
  sorted : (keysOf h (arr.getD [])).Pairwise (· < ·)

def specOf (h : Heap) (t : BTables) (d : Nat) : Option EntryB :=
  lookupSpec (contentB h t.loc.tableB) (contentB h t.master.tableB) d

/-- the *pointer* a walk of correctly searched tables yields (local first) -/
def specPtr (h : Heap) (t : BTables) (d : Nat) : Option Nat :=
  if isNonB d then none
  else match findId h (t.loc.tableB.getD []) d with
    | some id => some id
    | none => findId h (t.master.tableB.getD []) d

/-- a pointer the cache may hold: live, and it *is* the pointer the tables give for its key -/
def GoodPtr (h : Heap) (t : BTables) (id : Nat) : Prop :=
  ∃ e, deref h id = some e ∧ specPtr h t e.desc = some id

/-- **the cache invariant** -/
structure CacheInv (h : Heap) (t : BTables) : Prop where
  mas : SetOK h t.master.tableB
  loc : SetOK h t.loc.tableB
  /-- local and master arrays own different entries -/
  disj : ∀ id ∈ t.loc.tableB.getD [], id ∉ t.master.tableB.getD []
  cacheSorted : (keysOf h (t.cache.getD [])).Pairwise (· < ·)
  cacheGood : ∀ id ∈ t.cache.getD [], GoodPtr h t id
  lastGood : ∀ id, t.last = some id → GoodPtr h t id

theorem specOf_eq_ptr (h : Heap) (t : BTables) (d : Nat) (hm : SetOK h t.master.tableB) (hl : SetOK h t.loc.tableB) :
    specOf h t d = (specPtr h t d).bind (deref h) := by
  unfold specOf lookupSpec specPtr
  by_cases hF : isNonB d
  · simp [hF]
  · simp only [hF, if_false]
    rw [findE_content h _ d hl.live, findE_content h _ d hm.live]
    unfold lookupArr
    cases hf : findId h (t.loc.tableB.getD []) d with
    | none => simp
    | some id =>
      obtain ⟨e, he⟩ := hl.live id (findId_mem hf).1
      simp [he]

theorem tableSearch_eq (L : Libc) (hL : L.Contract) (h : Heap) (t : BTables) (d : Nat)
    (hm : SetOK h t.master.tableB) (hl : SetOK h t.loc.tableB) :
    tableSearch L h t d = match findId h (t.loc.tableB.getD []) d with
      | some id => some id
      | none => findId h (t.master.tableB.getD []) d := by
  unfold tableSearch
  rw [searchB_eq_findId L hL h (t.master.tableB.getD []) d hm.sorted]
  cases hloc : t.loc.tableB with
  | none => simp [findId]
  | some a =>
    have hls : (keysOf h a).Pairwise (· < ·) := by have := hl.sorted; rw [hloc] at this; exact this
    simp only [Option.getD_some]
    rw [searchB_eq_findId L hL h a d hls]
    cases findId h a d <;> rfl

theorem specPtr_congr (h : Heap) (t t' : BTables) (hm : t'.master = t.master) (hl : t'.loc = t.loc) (d : Nat) :
    specPtr h t' d = specPtr h t d := by unfold specPtr; rw [hm, hl]

theorem specOf_congr (h : Heap) (t t' : BTables) (hm : t'.master = t.master) (hl : t'.loc = t.loc) (d : Nat) :
    specOf h t' d = specOf h t d := by unfold specOf; rw [hm, hl]

theorem fetchD_congr (L : Libc) (t t' : BTables) (hm : t'.master = t.master) (hl : t'.loc = t.loc) (d : Nat) :
    fetchD L t' d = fetchD L t d := by
  unfold fetchD; rw [hm, hl]

theorem GoodPtr_congr (h : Heap) (t t' : BTables) (hm : t'.master = t.master) (hl : t'.loc = t.loc) (id : Nat) :
    GoodPtr h t' id ↔ GoodPtr h t id := by
  unfold GoodPtr; simp only [specPtr_congr h t t' hm hl]

theorem GoodPtr_spec {h : Heap} {t : BTables} {id : Nat} {e : EntryB} (hm : SetOK h t.master.tableB)
    (hl : SetOK h t.loc.tableB) (he : deref h id = some e) (hp : specPtr h t e.desc = some id) :
    specOf h t e.desc = some e := by
  rw [specOf_eq_ptr h t _ hm hl, hp]; simpa using he

/-- the invariant depends on the cache and the last hit only through their pointers being good -/
theorem CacheInv.recache {h : Heap} {t t' : BTables} (hI : CacheInv h t) (hm : t'.master = t.master)
    (hl : t'.loc = t.loc) (hs : (keysOf h (t'.cache.getD [])).Pairwise (· < ·))
    (hc : ∀ id ∈ t'.cache.getD [], GoodPtr h t id) (hla : ∀ id, t'.last = some id → GoodPtr h t id) :
    CacheInv h t' :=
  { mas := hm ▸ hI.mas, loc := hl ▸ hI.loc, disj := by rw [hm, hl]; exact hI.disj
    cacheSorted := hs
    cacheGood := fun id hid => (GoodPtr_congr h t t' hm hl id).mpr (hc id hid)
    lastGood := fun id hid => (GoodPtr_congr h t t' hm hl id).mpr (hla id hid) }

theorem isNonB_iff (d : Nat) : (fOf d == 1 || fOf d == 2 || fOf d == 3) = true ↔ isNonB d := by
  simp only [isNonB, Bool.or_eq_true, beq_iff_eq, or_assoc]

theorem fetchSlow_spec (L : Libc) (hL : L.Contract) (h : Heap) (t : BTables) (c : List Nat) (d : Nat)
    (hI : CacheInv h t) (hc : c = t.cache.getD []) (hmiss : findId h c d = none) :
    (fetchSlow L h t c d).1 = some (specOf h t d) ∧ CacheInv h (fetchSlow L h t c d).2 ∧
    (fetchSlow L h t c d).2.master = t.master ∧ (fetchSlow L h t c d).2.loc = t.loc := by
  subst hc
  have hI1 : CacheInv h { t with cache := some (t.cache.getD []) } :=
    hI.recache rfl rfl hI.cacheSorted hI.cacheGood hI.lastGood
  unfold fetchSlow
  dsimp only
  by_cases hF : isNonB d
  · rw [if_pos ((isNonB_iff d).mpr hF)]
    refine ⟨?_, hI1, rfl, rfl⟩
    unfold specOf lookupSpec; rw [if_pos hF]
  · rw [if_neg (mt (isNonB_iff d).mp hF)]
    have hts : tableSearch L h { t with cache := some (t.cache.getD []) } d = tableSearch L h t d := rfl
    have hT := tableSearch_eq L hL h t d hI.mas hI.loc
    have hP : specPtr h t d = tableSearch L h t d := by unfold specPtr; rw [if_neg hF, hT]
    have hS := specOf_eq_ptr h t d hI.mas hI.loc
    rw [hts]
    rw [hP] at hS
    generalize tableSearch L h t d = r at hS hP hT ⊢
    cases r with
    | none => exact ⟨by rw [hS]; rfl, hI1, rfl, rfl⟩
    | some id =>
      -- the pointer found is live, has key `d`, and is the one the tables give for `d`
      have hmemkey : (id ∈ t.loc.tableB.getD [] ∨ id ∈ t.master.tableB.getD []) ∧ keyOf h id = d := by
        cases hf : findId h (t.loc.tableB.getD []) d with
        | some x =>
          rw [hf] at hT; cases hT
          exact ⟨Or.inl (findId_mem hf).1, (findId_mem hf).2⟩
        | none =>
          rw [hf] at hT
          exact ⟨Or.inr (findId_mem hT.symm).1, (findId_mem hT.symm).2⟩
      obtain ⟨e, he⟩ : ∃ e, deref h id = some e :=
        hmemkey.1.elim (hI.loc.live id) (hI.mas.live id)
      have hed : e.desc = d := by rw [← keyOf_of_deref he]; exact hmemkey.2
      have hgood : GoodPtr h t id := ⟨e, he, by rw [hed]; exact hP⟩
      obtain ⟨hperm, hsorted⟩ := sortB_sorted L hL h (t.cache.getD [] ++ [id]) (by
        unfold keysOf
        rw [List.map_append]
        exact nodup_snoc (lt_pairwise_nodup hI.cacheSorted) (by rw [hmemkey.2]; exact findId_none hmiss))
      refine ⟨by rw [hS]; rfl, hI.recache
        (t' := { t with cache := some (sortB L h (t.cache.getD [] ++ [id])), last := some id }) rfl rfl hsorted ?_ ?_, rfl, rfl⟩
      · intro x hx
        rcases List.mem_append.mp (hperm.mem_iff.mp hx) with hx1 | hx2
        · exact hI.cacheGood x hx1
        · rw [List.mem_singleton.mp hx2]; exact hgood
      · intro x hx
        cases hx; exact hgood

/-- **T-Cache**: under the invariant, `bufr_fetch_tableB` returns what the specification says,
whatever was looked up before, and keeps the invariant; the tables themselves are untouched -/
theorem fetchB_spec (L : Libc) (hL : L.Contract) (h : Heap) (t : BTables) (d : Nat) (hI : CacheInv h t) :
    (fetchB L h t d).1 = some (specOf h t d) ∧ CacheInv h (fetchB L h t d).2 ∧
    (fetchB L h t d).2.master = t.master ∧ (fetchB L h t d).2.loc = t.loc := by
  -- a good pointer with key `d` answers by the specification
  have hit : ∀ id e, deref h id = some e → specPtr h t e.desc = some id → e.desc = d →
      some (some e) = some (specOf h t d) := by
    intro id e he hs hed
    rw [← hed, GoodPtr_spec hI.mas hI.loc he hs]
  have hcache : (fetchB.fetchCache L h t d).1 = some (specOf h t d) ∧ CacheInv h (fetchB.fetchCache L h t d).2 ∧
      (fetchB.fetchCache L h t d).2.master = t.master ∧ (fetchB.fetchCache L h t d).2.loc = t.loc := by
    unfold fetchB.fetchCache
    cases hc : t.cache with
    | none =>
      simp only
      exact fetchSlow_spec L hL h t [] d hI (by rw [hc]; rfl) rfl
    | some c =>
      have hcg : ∀ id ∈ c, GoodPtr h t id := fun id hid => hI.cacheGood id (by rw [hc]; exact hid)
      have hlive : c.all (live h) = true := by
        rw [List.all_eq_true]
        intro id hid
        obtain ⟨e, he, _⟩ := hcg id hid
        unfold live; rw [he]; rfl
      have hcs : (keysOf h c).Pairwise (· < ·) := by have := hI.cacheSorted; rw [hc] at this; exact this
      simp only [hlive, Bool.not_true, Bool.false_eq_true, if_false]
      rw [searchB_eq_findId L hL h c d hcs]
      cases hf : findId h c d with
      | none =>
        simp only
        exact fetchSlow_spec L hL h t c d hI (by rw [hc]; rfl) hf
      | some id =>
        simp only
        obtain ⟨hmem, hk⟩ := findId_mem hf
        obtain ⟨e, he, hs⟩ := hcg id hmem
        refine ⟨by rw [he]; exact hit id e he hs (by rw [← keyOf_of_deref he]; exact hk), ?_, trivial, trivial⟩
        exact hI.recache (t' := { t with cache := some c, last := some id }) rfl rfl hcs hcg
          (fun x hx => by cases hx; exact ⟨e, he, hs⟩)
  unfold fetchB
  cases hlast : t.last with
  | none => exact hcache
  | some id =>
    obtain ⟨e, he, hs⟩ := hI.lastGood id hlast
    simp only [he]
    by_cases hd : (e.desc == d) = true
    · rw [if_pos hd]
      exact ⟨hit id e he hs (by simpa using hd), hI, rfl, rfl⟩
    · rw [if_neg hd]
      exact hcache

theorem deref_eq (h : Heap) (id : Nat) : deref h id = (h[id]?).getD none := by
  unfold deref; rw [Array.getD_eq_getD_getElem?]

theorem deref_lt_size {h : Heap} {id : Nat} {e : EntryB} (he : deref h id = some e) : id < h.size := by
  rcases Nat.lt_or_ge id h.size with hlt | hge
  · exact hlt
  · rw [deref_eq, Array.getElem?_eq_none hge] at he; simp at he

theorem deref_set_self {h : Heap} {id : Nat} (v : Option EntryB) (hlt : id < h.size) :
    deref (h.setIfInBounds id v) id = v := by
  rw [deref_eq, Array.getElem?_setIfInBounds]; simp [hlt]

theorem deref_set_other {h : Heap} {id x : Nat} (v : Option EntryB) (hne : x ≠ id) :
    deref (h.setIfInBounds id v) x = deref h x := by
  rw [deref_eq, deref_eq, Array.getElem?_setIfInBounds]
  have : ¬ id = x := fun hh => hne hh.symm
  simp [this]

theorem deref_push_lt {h : Heap} {x : Nat} (v : Option EntryB) (hlt : x < h.size) :
    deref (h.push v) x = deref h x := by
  rw [deref_eq, deref_eq, Array.getElem?_push]
  have : ¬ x = h.size := by omega
  simp [this]

theorem deref_push_self (h : Heap) (v : Option EntryB) : deref (h.push v) h.size = v := by
  rw [deref_eq, Array.getElem?_push]; simp

theorem keyOf_congr {h h' : Heap} {x : Nat} (hd : deref h' x = deref h x) : keyOf h' x = keyOf h x := by
  unfold keyOf; rw [hd]

theorem keysOf_congr {h h' : Heap} {arr : List Nat} (hk : ∀ x ∈ arr, keyOf h' x = keyOf h x) :
    keysOf h' arr = keysOf h arr := by
  unfold keysOf; exact List.map_congr_left hk

theorem findId_congr {h h' : Heap} {arr : List Nat} (hk : ∀ x ∈ arr, keyOf h' x = keyOf h x) (d : Nat) :
    findId h' arr d = findId h arr d := by
  unfold findId
  induction arr with
  | nil => rfl
  | cons a rest ih =>
    simp only [List.find?_cons, hk a (List.mem_cons_self)]
    rw [ih (fun x hx => hk x (List.mem_cons_of_mem _ hx))]

/-- `SetOK` without the order: what holds of an array between a merge and the next `arr_sort` -/
structure ArrOK (h : Heap) (arr : List Nat) : Prop where
  live : AllLive h arr
  nodupKeys : (keysOf h arr).Nodup

/-- the lookup function `f` after entry `e` has been written over or appended -/
def updF (f : Nat → Option EntryB) (e : EntryB) : Nat → Option EntryB :=
  fun d => if d = e.desc then some e else f d

/-- one iteration of the loop of `bufr_merge_tableB`, overwrite-in-place case -/
theorem merge_step_found (h : Heap) (arr : List Nat) (e2 : EntryB) (id : Nat) (hA : ArrOK h arr)
    (hmem : id ∈ arr) (hk : keyOf h id = e2.desc) :
    let h1 := h.setIfInBounds id (some e2)
    ArrOK h1 arr ∧ (∀ x, keyOf h1 x = keyOf h x) ∧
    (∀ d, lookupArr h1 arr d = updF (lookupArr h arr) e2 d) := by
  intro h1
  obtain ⟨e0, he0⟩ := hA.live id hmem
  have hlt := deref_lt_size he0
  have hself : deref h1 id = some e2 := deref_set_self _ hlt
  have hother : ∀ x, x ≠ id → deref h1 x = deref h x := fun x hx => deref_set_other _ hx
  have hkeys : ∀ x, keyOf h1 x = keyOf h x := by
    intro x
    by_cases hx : x = id
    · subst hx; rw [keyOf_of_deref hself, hk]
    · exact keyOf_congr (hother x hx)
  have hlive : AllLive h1 arr := by
    intro x hx
    by_cases hxi : x = id
    · subst hxi; exact ⟨e2, hself⟩
    · rw [hother x hxi]; exact hA.live x hx
  refine ⟨⟨hlive, ?_⟩, hkeys, ?_⟩
  · rw [keysOf_congr (fun x _ => hkeys x)]; exact hA.nodupKeys
  · intro d
    unfold lookupArr updF
    rw [findId_congr (fun x _ => hkeys x)]
    by_cases hd : d = e2.desc
    · subst hd
      simp only [if_true]
      rw [findId_unique hA.nodupKeys hmem hk]
      simpa using hself
    · simp only [hd, if_false]
      cases hf : findId h arr d with
      | none => rfl
      | some x =>
        have := findId_mem hf
        have hxi : x ≠ id := by
          intro hh; subst hh; rw [hk] at this; exact hd this.2.symm
        simp only [Option.bind_some]
        exact hother x hxi

/-- one iteration, append case (`e2.desc` is not a key of the array) -/
theorem merge_step_new (h : Heap) (arr : List Nat) (e2 : EntryB) (hA : ArrOK h arr)
    (hnew : e2.desc ∉ keysOf h arr) :
    let h1 := h.push (some e2)
    ArrOK h1 (arr ++ [h.size]) ∧
    (∀ d, lookupArr h1 (arr ++ [h.size]) d = updF (lookupArr h arr) e2 d) := by
  intro h1
  have hold : ∀ x, x < h.size → deref h1 x = deref h x := fun x hx => deref_push_lt _ hx
  have hself : deref h1 h.size = some e2 := deref_push_self h _
  have hlt : ∀ x ∈ arr, x < h.size := by
    intro x hx; obtain ⟨e, he⟩ := hA.live x hx; exact deref_lt_size he
  have hkeys : ∀ x ∈ arr, keyOf h1 x = keyOf h x := fun x hx => keyOf_congr (hold x (hlt x hx))
  have hkeysAll : keysOf h1 (arr ++ [h.size]) = keysOf h arr ++ [e2.desc] := by
    unfold keysOf
    rw [List.map_append]
    congr 1
    · exact List.map_congr_left hkeys
    · simp [keyOf_of_deref hself]
  refine ⟨⟨?_, ?_⟩, ?_⟩
  · intro x hx
    rcases List.mem_append.mp hx with hx | hx
    · rw [hold x (hlt x hx)]; exact hA.live x hx
    · simp only [List.mem_singleton] at hx; subst hx; exact ⟨e2, hself⟩
  · rw [hkeysAll]
    exact nodup_snoc hA.nodupKeys hnew
  · intro d
    have happ : findId h1 (arr ++ [h.size]) d = (findId h arr d).or (findId h1 [h.size] d) := by
      have hfc : findId h1 arr d = findId h arr d := findId_congr hkeys d
      rw [← hfc]; unfold findId; rw [List.find?_append]
    have hlast : findId h1 [h.size] d = if e2.desc = d then some h.size else none := by
      unfold findId
      simp only [List.find?_cons, keyOf_of_deref hself, List.find?_nil]
      by_cases hd : e2.desc = d
      · simp [hd]
      · have hb : (e2.desc == d) = false := by simp [hd]
        rw [hb]; simp [hd]
    show (findId h1 (arr ++ [h.size]) d).bind (deref h1) =
      if d = e2.desc then some e2 else (findId h arr d).bind (deref h)
    rw [happ, hlast]
    cases hf : findId h arr d with
    | some x =>
      have hm := findId_mem hf
      have hd : ¬ d = e2.desc := by
        intro hh; apply hnew; rw [← hh, ← hm.2]; exact List.mem_map_of_mem hm.1
      simp only [Option.some_or, Option.bind_some, hd, if_false]
      exact hold x (hlt x hm.1)
    | none =>
      by_cases hd : d = e2.desc
      · subst hd; simp [hself]
      · have : ¬ e2.desc = d := fun hh => hd hh.symm
        simp [this, hd]

theorem findE_none_of_not_mem {es : List EntryB} {d : Nat} (hd : d ∉ es.map (·.desc)) : findE es d = none := by
  unfold findE
  rw [List.find?_eq_none]
  intro x hx hp
  exact hd (List.mem_map.mpr ⟨x, hx, by simpa using hp⟩)

theorem findE_cons_updF (f : Nat → Option EntryB) (e2 : EntryB) (rest : List EntryB) (d : Nat)
    (hn : ((e2 :: rest).map (·.desc)).Nodup) :
    (match findE rest d with | some e => some e | none => updF f e2 d) =
    (match findE (e2 :: rest) d with | some e => some e | none => f d) := by
  rw [List.map_cons, List.nodup_cons] at hn
  by_cases hd : d = e2.desc
  · subst hd
    rw [findE_none_of_not_mem hn.1]
    simp [findE, updF]
  · have hb : (e2.desc == d) = false := by simp; exact fun hh => hd hh.symm
    have : findE (e2 :: rest) d = findE rest d := by unfold findE; simp [hb]
    rw [this]
    cases findE rest d with
    | some e => rfl
    | none => simp [updF, hd]

theorem lookupArr_none_iff {h : Heap} {arr : List Nat} {d : Nat} (hl : AllLive h arr) :
    lookupArr h arr d = none ↔ findId h arr d = none := by
  unfold lookupArr
  cases hf : findId h arr d with
  | none => simp
  | some id =>
    obtain ⟨e, he⟩ := hl id (findId_mem hf).1
    simp [he]

theorem findId_perm {h : Heap} {arr arr' : List Nat} (hn : (keysOf h arr).Nodup) (hp : arr'.Perm arr) (d : Nat) :
    findId h arr' d = findId h arr d := by
  have hn' : (keysOf h arr').Nodup := by
    have : (keysOf h arr').Perm (keysOf h arr) := hp.map _
    exact this.nodup_iff.mpr hn
  cases hf : findId h arr d with
  | some id =>
    obtain ⟨hm, hk⟩ := findId_mem hf
    exact findId_unique hn' (hp.mem_iff.mpr hm) hk
  | none =>
    rw [findId_eq_none_iff] at hf ⊢
    exact fun hm => hf ((hp.map (keyOf h)).mem_iff.mp hm)

/-- `arr_sort` after a load: the array is a strictly sorted permutation -/
theorem sortB_ok (L : Libc) (hL : L.Contract) (h : Heap) (arr : List Nat) (hA : ArrOK h arr) :
    SetOK h (some (sortB L h arr)) ∧ (sortB L h arr).Perm arr := by
  obtain ⟨hperm, hsorted⟩ := sortB_sorted L hL h arr hA.nodupKeys
  exact ⟨⟨fun x hx => hA.live x (hperm.mem_iff.mp hx), hsorted⟩, hperm⟩

theorem ArrOK_perm {h : Heap} {arr arr' : List Nat} (hA : ArrOK h arr) (hp : arr'.Perm arr) : ArrOK h arr' :=
  ⟨fun x hx => hA.live x (hp.mem_iff.mp hx), ((hp.map (keyOf h)).nodup_iff).mpr hA.nodupKeys⟩

/-- what `bufr_merge_tableB(table1, table2)` achieves -/
structure MergeRes (h : Heap) (arr : List Nat) (es : List EntryB) (h' : Heap) (arr' : List Nat) : Prop where
  ok : ArrOK h' arr'
  /-- right-biased union: the new file wins on a clash, everything else is kept -/
  look : ∀ d, lookupArr h' arr' d = match findE es d with | some e => some e | none => lookupArr h arr d
  /-- entries outside the array are untouched -/
  frame : ∀ x, x < h.size → x ∉ arr → deref h' x = deref h x
  fresh : ∀ x ∈ arr', x ∈ arr ∨ h.size ≤ x

/-- `bufr_merge_tableB` on a strictly sorted array: the array stays strictly sorted through the
loop (it is sorted again after every append), so every binary search is complete -/
theorem mergeB_spec (L : Libc) (hL : L.Contract) : ∀ (es : List EntryB) (h : Heap) (arr : List Nat),
    AllLive h arr → (keysOf h arr).Pairwise (· < ·) → (es.map (·.desc)).Nodup →
    MergeRes h arr es (mergeB L h arr es).1 (mergeB L h arr es).2 ∧
    (keysOf (mergeB L h arr es).1 (mergeB L h arr es).2).Pairwise (· < ·) := by
  intro es
  induction es with
  | nil =>
    intro h arr hl hs _
    have e1 : (mergeB L h arr []).1 = h := rfl
    have e2 : (mergeB L h arr []).2 = arr := rfl
    rw [e1, e2]
    exact ⟨{ ok := ⟨hl, lt_pairwise_nodup hs⟩, look := fun d => by simp [findE], frame := fun _ _ _ => rfl
             fresh := fun _ hx => Or.inl hx }, hs⟩
  | cons e2 rest ih =>
    intro h arr hl hs hn
    have hA : ArrOK h arr := ⟨hl, lt_pairwise_nodup hs⟩
    have hn' : (rest.map (·.desc)).Nodup := by rw [List.map_cons, List.nodup_cons] at hn; exact hn.2
    unfold mergeB
    cases hsr : searchB L h arr e2.desc with
    | some id =>
      simp only
      obtain ⟨hmem, hk⟩ := searchB_sound L hL h arr e2.desc id hsr
      obtain ⟨hA1, hkeys1, hlook1⟩ := merge_step_found h arr e2 id hA hmem hk
      have hsize1 : (h.setIfInBounds id (some e2)).size = h.size := Array.size_setIfInBounds
      have hkeq : keysOf (h.setIfInBounds id (some e2)) arr = keysOf h arr := keysOf_congr (fun x _ => hkeys1 x)
      obtain ⟨R, hS⟩ := ih (h.setIfInBounds id (some e2)) arr hA1.live (by rw [hkeq]; exact hs) hn'
      refine ⟨{
        ok := R.ok
        look := by
          intro d
          rw [R.look d, hlook1 d]
          exact findE_cons_updF (lookupArr h arr) e2 rest d hn
        frame := by
          intro x hx hxa
          rw [R.frame x (by rw [hsize1]; exact hx) hxa]
          exact deref_set_other _ (fun hh => hxa (hh ▸ hmem))
        fresh := by intro x hx; have := R.fresh x hx; rw [hsize1] at this; exact this }, hS⟩
    | none =>
      simp only
      have hnew : e2.desc ∉ keysOf h arr := findId_none ((searchB_eq_findId L hL h arr _ hs).symm.trans hsr)
      obtain ⟨hA1, hlook1⟩ := merge_step_new h arr e2 hA hnew
      have hsize1 : (h.push (some e2)).size = h.size + 1 := Array.size_push _
      obtain ⟨hperm, hS2⟩ := sortB_sorted L hL (h.push (some e2)) (arr ++ [h.size]) hA1.nodupKeys
      have hA2 := ArrOK_perm hA1 hperm
      have hmemS : ∀ x ∈ sortB L (h.push (some e2)) (arr ++ [h.size]), x ∈ arr ∨ x = h.size :=
        fun x hx => by simpa using hperm.mem_iff.mp hx
      obtain ⟨R, hS⟩ := ih (h.push (some e2)) (sortB L (h.push (some e2)) (arr ++ [h.size])) hA2.live hS2 hn'
      refine ⟨{
        ok := R.ok
        look := by
          intro d
          rw [R.look d]
          have : lookupArr (h.push (some e2)) (sortB L (h.push (some e2)) (arr ++ [h.size])) d =
              lookupArr (h.push (some e2)) (arr ++ [h.size]) d := by
            unfold lookupArr; rw [findId_perm hA1.nodupKeys hperm d]
          rw [this, hlook1 d]
          exact findE_cons_updF (lookupArr h arr) e2 rest d hn
        frame := by
          intro x hx hxa
          rw [R.frame x (by rw [hsize1]; omega) (fun hh => (hmemS x hh).elim hxa (by omega))]
          exact deref_push_lt _ hx
        fresh := by
          intro x hx
          rcases R.fresh x hx with h1 | h2
          · exact (hmemS x h1).imp_right (fun hx => Nat.le_of_eq hx.symm)
          · rw [hsize1] at h2; right; omega }, hS⟩

theorem allocAll_spec : ∀ (es : List EntryB) (h : Heap), (es.map (·.desc)).Nodup →
    MergeRes h [] es (allocAll h es).1 (allocAll h es).2 ∧
    keysOf (allocAll h es).1 (allocAll h es).2 = es.map (·.desc) := by
  intro es
  induction es with
  | nil =>
    intro h _
    have e1 : (allocAll h []).1 = h := rfl
    have e2 : (allocAll h []).2 = [] := rfl
    rw [e1, e2]
    refine ⟨{ ok := ⟨fun _ hx => by simp at hx, by simp [keysOf]⟩, look := fun d => by simp [findE, lookupArr, findId]
              frame := fun _ _ _ => rfl, fresh := fun _ hx => Or.inl hx }, by simp [keysOf]⟩
  | cons e rest ih =>
    intro h hn
    have hn' : (rest.map (·.desc)).Nodup := by rw [List.map_cons, List.nodup_cons] at hn; exact hn.2
    have hnot : e.desc ∉ rest.map (·.desc) := by rw [List.map_cons, List.nodup_cons] at hn; exact hn.1
    obtain ⟨R, hK⟩ := ih (h.push (some e)) hn'
    have e1 : (allocAll h (e :: rest)).1 = (allocAll (h.push (some e)) rest).1 := rfl
    have e2 : (allocAll h (e :: rest)).2 = h.size :: (allocAll (h.push (some e)) rest).2 := rfl
    rw [e1, e2]
    generalize (allocAll (h.push (some e)) rest).1 = h' at R hK ⊢
    generalize (allocAll (h.push (some e)) rest).2 = ids at R hK ⊢
    have hsz : (h.push (some e)).size = h.size + 1 := Array.size_push _
    have hself : deref h' h.size = some e := by
      rw [R.frame h.size (by rw [hsz]; omega) (by simp)]
      exact deref_push_self h _
    have hge : ∀ x ∈ ids, h.size + 1 ≤ x := by
      intro x hx
      rcases R.fresh x hx with h1 | h2
      · simp at h1
      · rw [hsz] at h2; exact h2
    have hkeys : keysOf h' (h.size :: ids) = (e :: rest).map (·.desc) := by
      unfold keysOf at hK ⊢
      rw [List.map_cons, List.map_cons, hK, keyOf_of_deref hself]
    refine ⟨{ ok := ⟨?_, by rw [hkeys]; exact hn⟩, look := ?_, frame := ?_, fresh := ?_ }, hkeys⟩
    · intro x hx
      rcases List.mem_cons.mp hx with rfl | hx
      · exact ⟨e, hself⟩
      · exact R.ok.live x hx
    · intro d
      have hfe : findE (e :: rest) d = if e.desc == d then some e else findE rest d := by
        unfold findE; rw [List.find?_cons]; cases (e.desc == d) <;> rfl
      have hlr : lookupArr h' (h.size :: ids) d = if e.desc == d then some e else lookupArr h' ids d := by
        unfold lookupArr findId
        rw [List.find?_cons, keyOf_of_deref hself]
        cases hb : (e.desc == d)
        · rfl
        · simp [hself]
      rw [hlr, hfe, R.look d]
      cases hb : (e.desc == d)
      · simp only [Bool.false_eq_true, if_false]
        cases findE rest d <;> simp [lookupArr, findId]
      · simp
    · intro x hx _
      rw [R.frame x (by rw [hsz]; omega) (by simp)]
      exact deref_push_lt _ hx
    · intro x hx
      rcases List.mem_cons.mp hx with rfl | hx
      · right; exact Nat.le_refl _
      · right; have := hge x hx; omega

/-- the set after a successful load -/
def newSet (L : Libc) (h' : Heap) (arr1 : List Nat) (s : TSet) (ver : Option Int) : TSet :=
  { version := ver.getD s.version, tableB := some (sortB L h' arr1), ownsB := true, tableD := s.tableD, ownsD := s.ownsD }

/-- `bufr_flush_tableB_cache` -/
def flushT (t : BTables) : BTables := { t with cache := none, last := none }

/-- how `loadBEntries` with a readable file decomposes: flush, merge (or fresh allocation), sort -/
theorem loadBEntries_some (L : Libc) (h : Heap) (t : BTables) (w : Which) (es : List EntryB) (ver : Option Int) :
    let m := match (t.get w).tableB with
      | none => allocAll h es
      | some arr => mergeB L h arr es
    loadBEntries L h t w (some es) ver =
      (m.1, (flushT t).put w (newSet L m.1 m.2 (t.get w) ver), 0) := by
  unfold loadBEntries
  cases w with
  | master => cases hs : t.master.tableB <;> simp only [BTables.get, BTables.put, hs, newSet, flushT]
  | loc => cases hs : t.loc.tableB <;> simp only [BTables.get, BTables.put, hs, newSet, flushT]

theorem SetOK.arrOK {h : Heap} {arr : Option (List Nat)} (hs : SetOK h arr) : ArrOK h (arr.getD []) :=
  ⟨hs.live, lt_pairwise_nodup hs.sorted⟩

theorem load_merge_res (L : Libc) (hL : L.Contract) (h : Heap) (t : BTables) (w : Which) (es : List EntryB)
    (ver : Option Int) (hset : SetOK h (t.get w).tableB) (hn : (es.map (·.desc)).Nodup) :
    ∃ h' arr1, MergeRes h ((t.get w).tableB.getD []) es h' arr1 ∧
      loadBEntries L h t w (some es) ver =
        (h', (flushT t).put w (newSet L h' arr1 (t.get w) ver), 0) := by
  have hE := loadBEntries_some L h t w es ver
  cases hs : (t.get w).tableB with
  | none =>
    rw [hs] at hE
    exact ⟨_, _, (allocAll_spec es h hn).1, hE⟩
  | some arr =>
    rw [hs] at hE hset
    exact ⟨_, _, (mergeB_spec L hL es h arr hset.live hset.sorted hn).1, hE⟩

/-- facts about the set a load modified (`W` before, `W'` = sorted merge result after) and the set
it left alone (`O`) -/
structure LoadFacts (h h' : Heap) (W W' O : List Nat) (es : List EntryB) : Prop where
  newOK : SetOK h' (some W')
  look : ∀ d, lookupArr h' W' d = match findE es d with | some e => some e | none => lookupArr h W d
  frameO : ∀ x ∈ O, deref h' x = deref h x
  fresh : ∀ x ∈ W', x ∈ W ∨ h.size ≤ x
  liveO : AllLive h O

theorem lookupArr_congr {h h' : Heap} {arr : List Nat} (hd : ∀ x ∈ arr, deref h' x = deref h x) (d : Nat) :
    lookupArr h' arr d = lookupArr h arr d := by
  unfold lookupArr
  rw [findId_congr (fun x hx => keyOf_congr (hd x hx))]
  cases hf : findId h arr d with
  | none => rfl
  | some x => simp only [Option.bind_some]; exact hd x (findId_mem hf).1

theorem LoadFacts.lookup_O {h h' : Heap} {W W' O : List Nat} {es : List EntryB} (F : LoadFacts h h' W W' O es)
    (d : Nat) : lookupArr h' O d = lookupArr h O d :=
  lookupArr_congr F.frameO d

theorem LoadFacts.setO {h h' : Heap} {W W' O : List Nat} {es : List EntryB} (F : LoadFacts h h' W W' O es)
    (a : Option (List Nat)) (ha : a.getD [] = O) (hO : (keysOf h O).Pairwise (· < ·)) : SetOK h' a := by
  subst ha
  refine ⟨fun x hx => ?_, ?_⟩
  · rw [F.frameO x hx]; exact F.liveO x hx
  · rw [keysOf_congr (fun x hx => keyOf_congr (F.frameO x hx))]; exact hO

theorem LoadFacts.disjoint {h h' : Heap} {W W' O : List Nat} {es : List EntryB} (F : LoadFacts h h' W W' O es)
    (hd : ∀ x ∈ W, x ∉ O) : ∀ x ∈ W', x ∉ O := by
  intro x hx hxo
  rcases F.fresh x hx with h1 | h2
  · exact hd x h1 hxo
  · obtain ⟨e, he⟩ := F.liveO x hxo
    have := deref_lt_size he; omega

theorem load_facts (L : Libc) (hL : L.Contract) {h h' : Heap} {W arr1 O : List Nat} {es : List EntryB}
    (R : MergeRes h W es h' arr1) (hO : AllLive h O) (hd : ∀ x ∈ O, x ∉ W) :
    LoadFacts h h' W (sortB L h' arr1) O es := by
  obtain ⟨hS, hperm⟩ := sortB_ok L hL h' arr1 R.ok
  exact {
    newOK := hS
    look := by
      intro d
      unfold lookupArr
      rw [findId_perm R.ok.nodupKeys hperm d]
      exact R.look d
    frameO := by
      intro x hx
      obtain ⟨e, he⟩ := hO x hx
      exact R.frame x (deref_lt_size he) (hd x hx)
    fresh := fun x hx => R.fresh x (hperm.mem_iff.mp hx)
    liveO := hO }

theorem CacheInv_flushed {h : Heap} {t : BTables} (hm : SetOK h t.master.tableB) (hl : SetOK h t.loc.tableB)
    (hd : ∀ id ∈ t.loc.tableB.getD [], id ∉ t.master.tableB.getD []) (hc : t.cache = none) (hla : t.last = none) :
    CacheInv h t :=
  { mas := hm, loc := hl, disj := hd
    cacheSorted := by rw [hc]; simp [keysOf]
    cacheGood := by rw [hc]; intro _ hx; simp at hx
    lastGood := by rw [hla]; intro _ hx; cases hx }

/-- **load into the local set** keeps the invariant (the lookup cache is dropped); the local table
becomes the right-biased union, the master table is untouched -/
theorem loadB_loc_preserves (L : Libc) (hL : L.Contract) (h : Heap) (t : BTables) (es : List EntryB)
    (ver : Option Int) (hI : CacheInv h t) (hn : (es.map (·.desc)).Nodup) :
    ∃ h' t', loadBEntries L h t .loc (some es) ver = (h', t', 0) ∧ CacheInv h' t' ∧
      (∀ d, lookupArr h' (t'.loc.tableB.getD []) d =
        match findE es d with | some e => some e | none => lookupArr h (t.loc.tableB.getD []) d) ∧
      (∀ d, lookupArr h' (t'.master.tableB.getD []) d = lookupArr h (t.master.tableB.getD []) d) := by
  obtain ⟨h', arr1, R, heq⟩ := load_merge_res L hL h t .loc es ver hI.loc hn
  have F : LoadFacts h h' (t.loc.tableB.getD []) (sortB L h' arr1) (t.master.tableB.getD []) es :=
    load_facts L hL R hI.mas.live (fun x hx hxw => hI.disj x hxw hx)
  refine ⟨h', _, heq, ?_, F.look, F.lookup_O⟩
  exact CacheInv_flushed (F.setO _ rfl hI.mas.sorted) F.newOK (F.disjoint hI.disj) rfl rfl

/-- **load into the master set** keeps the invariant -/
theorem loadB_master_preserves (L : Libc) (hL : L.Contract) (h : Heap) (t : BTables) (es : List EntryB)
    (ver : Option Int) (hI : CacheInv h t) (hn : (es.map (·.desc)).Nodup) :
    ∃ h' t', loadBEntries L h t .master (some es) ver = (h', t', 0) ∧ CacheInv h' t' ∧
      (∀ d, lookupArr h' (t'.master.tableB.getD []) d =
        match findE es d with | some e => some e | none => lookupArr h (t.master.tableB.getD []) d) ∧
      (∀ d, lookupArr h' (t'.loc.tableB.getD []) d = lookupArr h (t.loc.tableB.getD []) d) := by
  obtain ⟨h', arr1, R, heq⟩ := load_merge_res L hL h t .master es ver hI.mas hn
  have F : LoadFacts h h' (t.master.tableB.getD []) (sortB L h' arr1) (t.loc.tableB.getD []) es :=
    load_facts L hL R hI.loc.live hI.disj
  refine ⟨h', _, heq, ?_, F.look, F.lookup_O⟩
  exact CacheInv_flushed F.newOK (F.setO _ rfl hI.loc.sorted)
    (fun x hx hxm => F.disjoint (fun y hy hyo => hI.disj y hyo hy) x hxm hx) rfl rfl

/-! ### `bufr_merge_tables` -/

theorem freeIds_size : ∀ (ids : List Nat) (h : Heap), (freeIds h ids).size = h.size := by
  intro ids
  induction ids with
  | nil => intro h; rfl
  | cons a rest ih =>
    intro h
    have : freeIds h (a :: rest) = freeIds (h.setIfInBounds a none) rest := rfl
    rw [this, ih, Array.size_setIfInBounds]

theorem deref_freeIds : ∀ (ids : List Nat) (h : Heap) (x : Nat), x ∉ ids → deref (freeIds h ids) x = deref h x := by
  intro ids
  induction ids with
  | nil => intro h x _; rfl
  | cons a rest ih =>
    intro h x hx
    have : freeIds h (a :: rest) = freeIds (h.setIfInBounds a none) rest := rfl
    rw [this, ih _ x (fun hh => hx (List.mem_cons_of_mem _ hh))]
    exact deref_set_other _ (fun hh => hx (hh ▸ List.mem_cons_self))

theorem filterMap_deref_keys (h : Heap) : ∀ (arr : List Nat), AllLive h arr →
    (arr.filterMap (deref h)).map (·.desc) = keysOf h arr := by
  intro arr
  induction arr with
  | nil => intro _; rfl
  | cons a rest ih =>
    intro hl
    obtain ⟨e, he⟩ := hl a (List.mem_cons_self)
    rw [List.filterMap_cons, he]
    simp only [List.map_cons]
    unfold keysOf
    rw [List.map_cons, keyOf_of_deref he]
    congr 1
    exact ih (fun x hx => hl x (List.mem_cons_of_mem _ hx))

theorem filterMap_deref_congr {h h' : Heap} {arr : List Nat} (hd : ∀ x ∈ arr, deref h' x = deref h x) :
    arr.filterMap (deref h') = arr.filterMap (deref h) := by
  induction arr with
  | nil => rfl
  | cons a rest ih =>
    rw [List.filterMap_cons, List.filterMap_cons, hd a (List.mem_cons_self),
      ih (fun x hx => hd x (List.mem_cons_of_mem _ hx))]

/-- the local array `bufr_merge_TablesSet` merges into (a REFERENCED one is dropped) -/
def dstLocal (t : BTables) : List Nat := if t.loc.ownsB then t.loc.tableB.getD [] else []

/-- the master array after `bufr_merge_tables` -/
def mergedMaster (dst src : BTables) : List Nat :=
  match src.master.tableB with | some a => a | none => dst.master.tableB.getD []

/-- the heap after the master step of `bufr_merge_tables` (the destination's own master array is freed
when the source brings one) -/
def mtHeap (h : Heap) (dst src : BTables) : Heap :=
  match src.master.tableB with
  | some _ => if dst.master.ownsB then freeIds h (dst.master.tableB.getD []) else h
  | none => h

/-- **`bufr_merge_tables` keeps the invariant** (the lookup cache is dropped) when the two objects
own different entries.  The local table becomes the right-biased union, the master table the
source's (if it has one). -/
theorem mergeTables_preserves (L : Libc) (hL : L.Contract) (h : Heap) (dst src : BTables)
    (hI : CacheInv h dst)
    (hsm : SetOK h src.master.tableB) (hsl : SetOK h src.loc.tableB)
    (hsep1 : ∀ x ∈ dst.master.tableB.getD [], x ∉ src.master.tableB.getD [] ∧ x ∉ src.loc.tableB.getD [])
    (hsep2 : ∀ x ∈ dst.loc.tableB.getD [], x ∉ src.master.tableB.getD []) :
    CacheInv (mergeTables L h dst src).1 (mergeTables L h dst src).2 ∧
    (∀ d, lookupArr (mergeTables L h dst src).1 ((mergeTables L h dst src).2.loc.tableB.getD []) d =
      match lookupArr h (src.loc.tableB.getD []) d with
      | some e => some e
      | none => lookupArr h (dstLocal dst) d) ∧
    (∀ d, lookupArr (mergeTables L h dst src).1 ((mergeTables L h dst src).2.master.tableB.getD []) d =
      lookupArr h (mergedMaster dst src) d) := by
  -- the heap after the master step: only the destination's master entries can have been freed
  generalize hh1def : mtHeap h dst src = h1
  have hh1 : ∀ x, x ∉ dst.master.tableB.getD [] → deref h1 x = deref h x := by
    intro x hx
    rw [← hh1def]; unfold mtHeap
    cases src.master.tableB with
    | none => rfl
    | some a =>
      cases dst.master.ownsB with
      | false => rfl
      | true => exact deref_freeIds _ h x hx
  -- the local array merged into: part of the destination's, in order, untouched by the master step
  have hlB : (∀ x ∈ dstLocal dst, x ∈ dst.loc.tableB.getD []) ∧ AllLive h (dstLocal dst) ∧
      (keysOf h (dstLocal dst)).Pairwise (· < ·) := by
    unfold dstLocal
    cases dst.loc.ownsB with
    | true => exact ⟨fun _ hx => hx, hI.loc.live, hI.loc.sorted⟩
    | false => exact ⟨fun _ hx => by simp at hx, fun _ hx => by simp at hx, by simp [keysOf]⟩
  have hlBh1 : ∀ x ∈ dstLocal dst, deref h1 x = deref h x :=
    fun x hx => hh1 x (fun hm => hI.disj x (hlB.1 x hx) hm)
  -- the new master array: the source's if it has one, the destination's otherwise
  have hO : (∀ x ∈ mergedMaster dst src, deref h1 x = deref h x) ∧ SetOK h (some (mergedMaster dst src)) ∧
      ∀ x ∈ mergedMaster dst src, x ∉ dst.loc.tableB.getD [] := by
    unfold mergedMaster
    cases hs : src.master.tableB with
    | none =>
      have : h1 = h := by rw [← hh1def]; unfold mtHeap; rw [hs]
      exact ⟨fun _ _ => by rw [this], ⟨hI.mas.live, hI.mas.sorted⟩, fun x hx hxl => hI.disj x hxl hx⟩
    | some a =>
      rw [hs] at hsm hsep1 hsep2
      exact ⟨fun x hx => hh1 x (fun hm => (hsep1 x hm).1 hx), hsm, fun x hx hxl => hsep2 x hxl hx⟩
  obtain ⟨hO_h, hO_ok, hO_disj⟩ := hO
  have hO_disjL : ∀ x ∈ mergedMaster dst src, x ∉ dstLocal dst := fun x hx hxl => hO_disj x hx (hlB.1 x hxl)
  have hO_sorted : (keysOf h1 (mergedMaster dst src)).Pairwise (· < ·) := by
    rw [keysOf_congr (fun x hx => keyOf_congr (hO_h x hx))]; exact hO_ok.sorted
  have hlive1 : AllLive h1 (dstLocal dst) := fun x hx => by rw [hlBh1 x hx]; exact hlB.2.1 x hx
  have hsrcB : (src.loc.tableB.getD []).filterMap (deref h1) = (src.loc.tableB.getD []).filterMap (deref h) :=
    filterMap_deref_congr (fun x hx => hh1 x (fun hm => (hsep1 x hm).2 hx))
  have R := (mergeB_spec L hL ((src.loc.tableB.getD []).filterMap (deref h1)) h1 (dstLocal dst) hlive1
    (by rw [keysOf_congr (fun x hx => keyOf_congr (hlBh1 x hx))]; exact hlB.2.2)
    (by rw [hsrcB, filterMap_deref_keys h _ hsl.live]; exact lt_pairwise_nodup hsl.sorted)).1
  have F := load_facts L hL R (fun x hx => by rw [hO_h x hx]; exact hO_ok.live x hx) hO_disjL
  -- the result of the model function, in these terms
  have hres1 : (mergeTables L h dst src).1 = (mergeB L h1 (dstLocal dst) ((src.loc.tableB.getD []).filterMap (deref h1))).1 := by
    rw [← hh1def]
    unfold mergeTables dstLocal mtHeap
    cases src.master.tableB <;> rfl
  have hresL : (mergeTables L h dst src).2.loc.tableB =
      some (sortB L (mergeB L h1 (dstLocal dst) ((src.loc.tableB.getD []).filterMap (deref h1))).1
                    (mergeB L h1 (dstLocal dst) ((src.loc.tableB.getD []).filterMap (deref h1))).2) := by
    rw [← hh1def]
    unfold mergeTables dstLocal mtHeap
    cases src.master.tableB <;> rfl
  have hresM : (mergeTables L h dst src).2.master.tableB.getD [] = mergedMaster dst src := by
    unfold mergeTables mergedMaster
    cases hs : src.master.tableB with
    | none => cases src.master.tableD <;> rfl
    | some a => cases src.master.tableD <;> rfl
  rw [hres1]
  refine ⟨CacheInv_flushed ?_ (by rw [hresL]; exact F.newOK) ?_ (by unfold mergeTables; rfl)
    (by unfold mergeTables; rfl), ?_, ?_⟩
  · exact F.setO _ hresM hO_sorted
  · rw [hresL, hresM]
    exact F.disjoint (fun x hx hxo => hO_disjL x hxo hx)
  · intro d
    rw [hresL]
    simp only [Option.getD_some]
    rw [F.look d, hsrcB]
    have hfe : findE ((src.loc.tableB.getD []).filterMap (deref h)) d = lookupArr h (src.loc.tableB.getD []) d :=
      findE_content h src.loc.tableB d hsl.live
    rw [hfe, lookupArr_congr hlBh1]
  · intro d
    rw [hresM, F.lookup_O, lookupArr_congr hO_h]

theorem useListGo_exact (v : Int) : ∀ (xs : List Int) (i : Nat) (btn ltn : Option (Nat × Int)), v ∈ xs →
    ∃ j, useListGo v xs i btn ltn = some (i + j) ∧ xs[j]? = some v := by
  intro xs
  induction xs with
  | nil => intro _ _ _ h; simp at h
  | cons x rest ih =>
    intro i btn ltn hmem
    by_cases hx : x = v
    · exact ⟨0, by unfold useListGo; simp [hx], by simp [hx]⟩
    · -- past an element that is not the version looked for the scan goes on, with whatever candidates
      have key : ∀ b l, ∃ j, useListGo v rest (i + 1) b l = some (i + j) ∧ (x :: rest)[j]? = some v := by
        intro b l
        obtain ⟨j, h1, h2⟩ := ih (i + 1) b l ((List.mem_cons.mp hmem).resolve_left (Ne.symm hx))
        exact ⟨j + 1, by rw [h1]; congr 1; omega, by simpa using h2⟩
      unfold useListGo
      rw [if_neg (by simpa using hx)]
      split
      · split
        · exact key _ _
        · split <;> exact key _ _
      · split
        · exact key _ _
        · split <;> exact key _ _

/-- `d` expands finitely and completely: not a sequence, or a defined sequence all of whose members do -/
inductive Good (L : Libc) (t : BTables) : Nat → Prop
  | nonD (d : Nat) : fOf d ≠ 3 → Good L t d
  | seq (d : Nat) (e : EntryD) : fetchD L t d = some e → (∀ m ∈ e.members, Good L t m) → Good L t d

/-- `b` occurs in the expansion of `a` -/
inductive Reach (L : Libc) (t : BTables) : Nat → Nat → Prop
  | step (a : Nat) (e : EntryD) (m : Nat) : fetchD L t a = some e → m ∈ e.members → Reach L t a m
  | trans (a b c : Nat) : Reach L t a b → Reach L t b c → Reach L t a c

theorem fetchD_some_f {L : Libc} {t : BTables} {d : Nat} {e : EntryD} (h : fetchD L t d = some e) : fOf d = 3 := by
  unfold fetchD at h
  by_cases hf : (fOf d != 3) = true
  · simp [hf] at h
  · simpa using hf

theorem Reach_head {L : Libc} {t : BTables} {a c : Nat} (h : Reach L t a c) :
    ∃ e m, fetchD L t a = some e ∧ m ∈ e.members ∧ (m = c ∨ Reach L t m c) := by
  induction h with
  | step a e m hf hm => exact ⟨e, m, hf, hm, Or.inl rfl⟩
  | trans a b c _ hbc ih1 _ =>
    obtain ⟨e, m, hf, hm, hor⟩ := ih1
    refine ⟨e, m, hf, hm, Or.inr ?_⟩
    rcases hor with rfl | hr
    · exact hbc
    · exact Reach.trans _ _ _ hr hbc

theorem Good_reach {L : Libc} {t : BTables} {a b : Nat} (hr : Reach L t a b) : Good L t a → Good L t b := by
  induction hr with
  | step a e m hf hm =>
    intro hg
    cases hg with
    | nonD _ hn => exact absurd (fetchD_some_f hf) hn
    | seq _ e' hf' hall =>
      rw [hf] at hf'; cases hf'
      exact hall m hm
  | trans a b c _ _ ih1 ih2 => exact fun hg => ih2 (ih1 hg)

theorem Good_acyclic {L : Libc} {t : BTables} {a : Nat} (hg : Good L t a) : ¬ Reach L t a a := by
  induction hg with
  | nonD d hn =>
    intro hr
    obtain ⟨e, _, hf, _, _⟩ := Reach_head hr
    exact hn (fetchD_some_f hf)
  | seq d e hf _ ih =>
    intro hr
    obtain ⟨e', m, hf', hm, hor⟩ := Reach_head hr
    rw [hf] at hf'; cases hf'
    rcases hor with rfl | hr'
    · exact ih m hm hr
    · exact ih m hm (Reach.trans _ _ _ hr' (Reach.step _ _ _ hf hm))

theorem checkMembers_true (f : Nat → List Nat → Int × List Nat) : ∀ (ms : List Nat) (st : List Nat),
    (checkMembers f ms st).1 = true → ∀ m ∈ ms, ∃ st', ¬ (f m st').1 < 0 := by
  intro ms
  induction ms with
  | nil => intro _ _ m hm; simp at hm
  | cons a rest ih =>
    intro st h m hm
    unfold checkMembers at h
    by_cases hneg : (f a st).1 < 0
    · simp [hneg] at h
    · simp only [hneg, if_false] at h
      rcases List.mem_cons.mp hm with rfl | hm'
      · exact ⟨st, hneg⟩
      · exact ih _ h m hm'

theorem checkDesc_good (L : Libc) (t : BTables) : ∀ (fuel d : Nat) (st : List Nat),
    ¬ (checkDesc L t fuel d st).1 < 0 → Good L t d := by
  intro fuel
  induction fuel with
  | zero =>
    intro d st h
    have : (checkDesc L t 0 d st).1 = -99 := rfl
    rw [this] at h; omega
  | succ n ih =>
    intro d st h
    unfold checkDesc at h
    by_cases hf : (fOf d != 3) = true
    · exact Good.nonD d (by simpa using hf)
    · rw [if_neg hf] at h
      by_cases hc : st.contains d = true
      · rw [if_pos hc] at h; simp at h
      · rw [if_neg hc] at h
        cases hfd : fetchD L t d with
        | none => rw [hfd] at h; simp at h
        | some e =>
          rw [hfd] at h
          simp only at h
          cases hcm : checkMembers (checkDesc L t n) e.members (st ++ [d]) with
          | mk ok st2 =>
            rw [hcm] at h
            cases ok with
            | false => simp at h
            | true =>
              apply Good.seq d e hfd
              intro m hm
              have h1 : (checkMembers (checkDesc L t n) e.members (st ++ [d])).1 = true := by rw [hcm]
              obtain ⟨st', hst'⟩ := checkMembers_true _ _ _ h1 m hm
              exact ih m st' hst'

theorem loopMembers_le (f : Nat → List Nat → Int × List Nat) : ∀ (ms : List Nat) (err : Int) (st : List Nat),
    (loopMembers f ms (err, st)).1 ≤ err := by
  intro ms
  induction ms with
  | nil => intro err st; exact Int.le_refl _
  | cons a rest ih =>
    intro err st
    unfold loopMembers
    have := ih (if (f a st).1 < 0 ∧ (f a st).1 < err then (f a st).1 else err) (f a st).2
    by_cases hc : (f a st).1 < 0 ∧ (f a st).1 < err
    · simp only [hc, and_self, if_true] at this ⊢; omega
    · simp only [hc, if_false] at this ⊢; exact this

theorem loopMembers_zero (f : Nat → List Nat → Int × List Nat) : ∀ (ms : List Nat) (err : Int) (st : List Nat),
    err ≤ 0 → (loopMembers f ms (err, st)).1 = 0 → err = 0 ∧ ∀ m ∈ ms, ∃ st', ¬ (f m st').1 < 0 := by
  intro ms
  induction ms with
  | nil => intro err st _ h; exact ⟨h, fun m hm => by simp at hm⟩
  | cons a rest ih =>
    intro err st hle h
    unfold loopMembers at h
    by_cases hc : (f a st).1 < 0 ∧ (f a st).1 < err
    · simp only [hc, and_self, if_true] at h
      have := ih (f a st).1 (f a st).2 (by omega) h
      omega
    · simp only [hc, if_false] at h
      obtain ⟨h0, hall⟩ := ih err (f a st).2 hle h
      refine ⟨h0, ?_⟩
      intro m hm
      rcases List.mem_cons.mp hm with rfl | hm'
      · refine ⟨st, ?_⟩
        intro hneg; apply hc; exact ⟨hneg, by omega⟩
      · exact hall m hm'

theorem loopMembers_append (f : Nat → List Nat → Int × List Nat) : ∀ (ms ns : List Nat) (acc : Int × List Nat),
    loopMembers f (ms ++ ns) acc = loopMembers f ns (loopMembers f ms acc) := by
  intro ms
  induction ms with
  | nil => intro _ _; rfl
  | cons a rest ih => intro ns acc; exact ih ns _

theorem loopEntries_eq (f : Nat → List Nat → Int × List Nat) : ∀ (es : List EntryD) (acc : Int × List Nat),
    loopEntries f es acc = loopMembers f (es.flatMap (·.members)) acc := by
  intro es
  induction es with
  | nil => intro _; rfl
  | cons e rest ih =>
    intro acc
    rw [List.flatMap_cons, loopMembers_append, ← ih]; rfl

theorem loopEntries_le (f : Nat → List Nat → Int × List Nat) : ∀ (es : List EntryD) (err : Int) (st : List Nat),
    (loopEntries f es (err, st)).1 ≤ err := by
  intro es err st
  rw [loopEntries_eq]
  exact loopMembers_le f _ err st

/-- `bufr_check_loop_tableD` returning 0 certifies every member of every entry of the set -/
theorem checkLoop_zero_good (L : Libc) (t : BTables) (arr : List EntryD) (h : checkLoop L t (some arr) = 0) :
    ∀ e ∈ arr, ∀ m ∈ e.members, Good L t m := by
  unfold checkLoop at h
  rw [Option.getD_some, loopEntries_eq] at h
  obtain ⟨_, hall⟩ := loopMembers_zero _ _ 0 [] (Int.le_refl _) h
  intro e he m hm
  obtain ⟨st', hst'⟩ := hall m (List.mem_flatMap.mpr ⟨e, he, hm⟩)
  exact checkDesc_good L t _ m st' hst'

theorem checkMembers_all_ok (f : Nat → List Nat → Int × List Nat) (st : List Nat) :
    ∀ (ms : List Nat), (∀ m ∈ ms, f m st = (1, st)) → checkMembers f ms st = (true, st) := by
  intro ms
  induction ms with
  | nil => intro _; rfl
  | cons a rest ih =>
    intro h
    unfold checkMembers
    rw [h a (List.mem_cons_self)]
    simp only [show ¬ ((1 : Int) < 0) by decide, if_false]
    exact ih (fun m hm => h m (List.mem_cons_of_mem _ hm))

/-- a ranking of the sequences (members rank strictly lower) whose ranks fit the fuel: the check
returns 1 and leaves the path stack as it found it -/
theorem checkDesc_accepts (L : Libc) (t : BTables) (r : Nat → Nat)
    (hr : ∀ d e, fetchD L t d = some e → ∀ m ∈ e.members, fOf m = 3 → (fetchD L t m).isSome = true ∧ r m < r d) :
    ∀ (fuel d : Nat) (st : List Nat), r d + 1 < fuel → (fOf d = 3 → (fetchD L t d).isSome = true) →
      (∀ x ∈ st, r d < r x) → checkDesc L t fuel d st = (1, st) := by
  intro fuel
  induction fuel with
  | zero => intro d st h; omega
  | succ n ih =>
    intro d st hfuel hdef hst
    unfold checkDesc
    by_cases hf : (fOf d != 3) = true
    · simp [hf]
    · rw [if_neg hf]
      have hf3 : fOf d = 3 := by simpa using hf
      have hnc : ¬ st.contains d = true := by
        intro hc
        have : d ∈ st := by simpa using hc
        have := hst d this; omega
      rw [if_neg hnc]
      have hsome := hdef hf3
      cases hfd : fetchD L t d with
      | none => rw [hfd] at hsome; simp at hsome
      | some e =>
        simp only
        have hall : ∀ m ∈ e.members, checkDesc L t n m (st ++ [d]) = (1, st ++ [d]) := by
          intro m hm
          by_cases hm3 : fOf m = 3
          · obtain ⟨hs, hlt⟩ := hr d e hfd m hm hm3
            apply ih m (st ++ [d]) (by omega) (fun _ => hs)
            intro x hx
            rcases List.mem_append.mp hx with h1 | h2
            · have := hst x h1; omega
            · simp only [List.mem_singleton] at h2; subst h2; exact hlt
          · cases n with
            | zero => omega
            | succ k =>
              unfold checkDesc
              have : (fOf m != 3) = true := by simpa using hm3
              simp [this]
        rw [checkMembers_all_ok _ _ _ hall]
        simp

theorem loopMembers_all_ok (f : Nat → List Nat → Int × List Nat) (st : List Nat) :
    ∀ (ms : List Nat) (err : Int), (∀ m ∈ ms, f m st = (1, st)) → loopMembers f ms (err, st) = (err, st) := by
  intro ms
  induction ms with
  | nil => intro _ _; rfl
  | cons a rest ih =>
    intro err h
    unfold loopMembers
    rw [h a (List.mem_cons_self)]
    simp only [show ¬ ((1 : Int) < 0) by decide, false_and, if_false]
    exact ih err (fun m hm => h m (List.mem_cons_of_mem _ hm))

theorem checkLoop_accepts (L : Libc) (t : BTables) (r : Nat → Nat) (arr : List EntryD)
    (hr : ∀ d e, fetchD L t d = some e → ∀ m ∈ e.members, fOf m = 3 → (fetchD L t m).isSome = true ∧ r m < r d)
    (hdef : ∀ e ∈ arr, ∀ m ∈ e.members, fOf m = 3 → (fetchD L t m).isSome = true)
    (hb : ∀ d, r d + 1 < loopFuel t) : checkLoop L t (some arr) = 0 := by
  unfold checkLoop
  rw [Option.getD_some, loopEntries_eq, loopMembers_all_ok _ [] _ 0]
  intro m hm
  obtain ⟨e, he, hme⟩ := List.mem_flatMap.mp hm
  exact checkDesc_accepts L t r hr _ m [] (hb m) (hdef e he m hme) (fun x hx => by simp at hx)

def decVal (ds : Bytes) : Nat := ds.foldl (fun a c => a * 10 + (c - 48)) 0

/-- declarative reading of a number: the text from column `i` is blanks, an optional `-`, at least one
digit, and then something that is not a digit (or the end of the line); its value fits an `int` -/
def IntAt (l : Bytes) (i : Nat) (v : Int) : Prop :=
  ∃ (k : Nat) (neg : Bool) (ds rest : Bytes),
    l.drop i = List.replicate k 32 ++ ((if neg then [45] else []) ++ (ds ++ rest)) ∧
    ds ≠ [] ∧ (∀ c ∈ ds, isDigit c = true) ∧ (∀ c, rest.head? = some c → isDigit c = false) ∧
    v = (if neg then -(decVal ds : Int) else (decVal ds : Int)) ∧ -2147483648 ≤ v ∧ v ≤ 2147483647

theorem digitsVal_append (ds rest : Bytes) (hd : ∀ c ∈ ds, isDigit c = true)
    (hr : ∀ c, rest.head? = some c → isDigit c = false) :
    ∀ acc, digitsVal (ds ++ rest) acc = ds.foldl (fun a c => a * 10 + (c - 48)) acc := by
  induction ds with
  | nil =>
    intro acc
    simp only [List.nil_append, List.foldl_nil]
    cases rest with
    | nil => rfl
    | cons c cs =>
      unfold digitsVal
      rw [hr c rfl]; rfl
  | cons c cs ih =>
    intro acc
    simp only [List.cons_append, List.foldl_cons]
    unfold digitsVal
    rw [hd c (List.mem_cons_self)]
    simp only [if_true]
    exact ih (fun x hx => hd x (List.mem_cons_of_mem _ hx)) _

theorem dropWhile_blanks (k : Nat) (x : Bytes) (hx : ∀ c, x.head? = some c → isSpace c = false) :
    (List.replicate k 32 ++ x).dropWhile isSpace = x := by
  rw [List.dropWhile_append_of_pos (fun a ha => by rw [List.eq_of_mem_replicate ha]; decide)]
  cases x with
  | nil => rfl
  | cons c cs => rw [List.dropWhile_cons, hx c rfl]; rfl

theorem isDigit_not_space {c : Nat} (h : isDigit c = true) : isSpace c = false := by
  unfold isDigit at h; unfold isSpace
  simp only [Bool.and_eq_true, decide_eq_true_eq] at h
  have h1 : (c == 32) = false := by simp; omega
  have h2 : (decide (9 ≤ c) && decide (c ≤ 13)) = false := by simp; omega
  rw [h1, h2]; rfl

theorem wrap_clamp_id (v : Int) (h1 : -2147483648 ≤ v) (h2 : v ≤ 2147483647) : wrap32 (clamp64 v) = v := by
  have hc : clamp64 v = v := by
    unfold clamp64
    have a : ¬ v > 9223372036854775807 := by omega
    have b : ¬ v < -9223372036854775808 := by omega
    simp [a, b]
  rw [hc]; unfold wrap32
  rw [Int.emod_eq_of_lt (by omega) (by omega)]; omega

theorem atoi_of_IntAt (l tail : Bytes) (i : Nat) (v : Int) (hi : i ≤ l.length) (h : IntAt l i v)
    (ht : ∀ c, tail.head? = some c → isDigit c = false) : atoi ((l ++ tail).drop i) = v := by
  obtain ⟨k, neg, ds, rest, hshape, hne, hdig, hrest, hv, hlo, hhi⟩ := h
  rw [List.drop_append_of_le_length hi, hshape]
  have hrt : ∀ c, (rest ++ tail).head? = some c → isDigit c = false := by
    cases rest with
    | nil => exact ht
    | cons x xs => exact hrest
  obtain ⟨d0, dsr, hds⟩ := List.exists_cons_of_ne_nil hne
  have hd0 : isDigit d0 = true := hdig d0 (by rw [hds]; exact List.mem_cons_self)
  have hraw : atoiRaw (List.replicate k 32 ++ ((if neg then [45] else []) ++ (ds ++ rest)) ++ tail) = v := by
    unfold atoiRaw
    have hassoc : List.replicate k 32 ++ ((if neg then [45] else []) ++ (ds ++ rest)) ++ tail =
        List.replicate k 32 ++ ((if neg then [45] else []) ++ (ds ++ (rest ++ tail))) := by simp [List.append_assoc]
    rw [hassoc]
    cases neg with
    | true =>
      simp only [if_true, List.cons_append, List.nil_append] at hv ⊢
      rw [dropWhile_blanks k _ (by rintro c ⟨⟩; rfl)]
      simp only
      rw [digitsVal_append ds (rest ++ tail) hdig hrt 0, hv]; rfl
    | false =>
      simp only [Bool.false_eq_true, if_false, List.nil_append] at hv ⊢
      rw [dropWhile_blanks k _ (by
        intro c hc; rw [hds] at hc
        simp only [List.cons_append, List.head?_cons, Option.some.injEq] at hc
        subst hc; exact isDigit_not_space hd0)]
      have h45 : d0 ≠ 45 := by rintro rfl; exact absurd hd0 (by decide)
      have h43 : d0 ≠ 43 := by rintro rfl; exact absurd hd0 (by decide)
      rw [hds]
      simp only [List.cons_append]
      split
      · next r heq => simp only [List.cons.injEq] at heq; exact absurd heq.1 h45
      · next r heq => simp only [List.cons.injEq] at heq; exact absurd heq.1 h43
      · rw [← List.cons_append, ← hds, digitsVal_append ds (rest ++ tail) hdig hrt 0, hv]; rfl
  unfold atoi
  rw [hraw]
  exact wrap_clamp_id v hlo hhi

theorem rtrim_snoc (p : Nat → Bool) (xs : Bytes) (c : Nat) :
    rtrim p (xs ++ [c]) = if p c then rtrim p xs else xs ++ [c] := by
  unfold rtrim
  rw [List.reverse_append]
  simp only [List.reverse_cons, List.reverse_nil, List.nil_append, List.cons_append, List.dropWhile_cons]
  by_cases hp : p c = true
  · simp [hp]
  · simp [hp]

theorem take_trimLen (buf : Bytes) (start : Nat) : ∀ n, start + n ≤ buf.length →
    (buf.drop start).take (trimLen buf start n) = rtrim (· == 32) ((buf.drop start).take n) := by
  intro n
  induction n with
  | zero => intro _; simp [trimLen, rtrim]
  | succ n ih =>
    intro hn
    have hidx : n < (buf.drop start).length := by rw [List.length_drop]; omega
    have htk : (buf.drop start).take (n + 1) = (buf.drop start).take n ++ [buf.getD (start + n) 0] := by
      rw [List.take_add_one, List.getElem?_eq_getElem hidx]
      simp only [Option.toList_some, List.getElem_drop]
      rw [List.getD_eq_getElem?_getD, List.getElem?_eq_getElem (by omega)]; rfl
    rw [htk, rtrim_snoc]
    unfold trimLen
    by_cases hb : (buf.getD (start + n) 0 == 32) = true
    · simp only [hb, if_true]
      exact ih (by omega)
    · simp only [hb, Bool.false_eq_true, if_false]
      rw [← htk]

theorem rtrim_sublist (p : Nat → Bool) (xs : Bytes) : ∀ c ∈ rtrim p xs, c ∈ xs := by
  intro c hc
  unfold rtrim at hc
  rw [List.mem_reverse] at hc
  have := (List.dropWhile_sublist p).subset hc
  exact List.mem_reverse.mp this

theorem dropWhile_idem (p : Nat → Bool) (xs : Bytes) : (xs.dropWhile p).dropWhile p = xs.dropWhile p := by
  induction xs with
  | nil => rfl
  | cons a rest ih =>
    rw [List.dropWhile_cons]
    by_cases hp : p a = true
    · simp only [hp, if_true]; exact ih
    · simp only [hp, Bool.false_eq_true, if_false]; rw [List.dropWhile_cons]; simp [hp]

theorem rtrim_idem (p : Nat → Bool) (xs : Bytes) : rtrim p (rtrim p xs) = rtrim p xs := by
  unfold rtrim
  rw [List.reverse_reverse, dropWhile_idem]

theorem cstr_clean (b : Bytes) (h : ∀ c ∈ b, c ≠ 0) : cstr b = b := by
  have := List.takeWhile_append_of_pos (p := (· != 0)) (l₂ := []) (fun c hc => by simpa using h c hc)
  rwa [List.takeWhile_nil, List.append_nil] at this

theorem cstr_line (l junk : Bytes) (h : ∀ c ∈ l, c ≠ 0 ∧ c ≠ 10) : cstr (l ++ 10 :: 0 :: junk) = l ++ [10] := by
  unfold cstr
  rw [List.takeWhile_append_of_pos (fun c hc => by simpa using (h c hc).1)]
  rfl

/-- a well-formed line of a CMC Table B file in the default column layout, read declaratively:
`l` is the line without its terminator -/
structure FixedColumns (l : Bytes) (e : EntryB) : Prop where
  len : 81 ≤ l.length
  clean : ∀ c ∈ l, c ≠ 0 ∧ c ≠ 10
  first : l.head? = some 48
  desc : IntAt l 0 (e.desc : Int)
  descF : e.desc < 100000
  scale : IntAt l 63 e.scale
  ref : IntAt l 66 e.ref
  nbits : IntAt l 78 (e.nbits : Int)
  descr : e.descr = strOfBytes (rtrim (· == 32) ((l.drop 8).take 44))
  unit : e.unit = strOfBytes (rtrim isSpace ((l.drop 52).take 11))
  typ : e.typ = unitToType (rtrim isSpace ((l.drop 52).take 11))

theorem startsWith_head_ne (b pre : Bytes) (c c' : Nat) (hb : b.head? = some c) (hp : pre.head? = some c')
    (hne : c ≠ c') : startsWith b pre = false := by
  unfold startsWith
  cases b with
  | nil => simp at hb
  | cons x xs =>
    cases pre with
    | nil => simp at hp
    | cons y ys =>
      simp only [List.head?_cons, Option.some.injEq] at hb hp
      subst hb; subst hp
      simp [List.isPrefixOf, hne.symm]

theorem head_newline_not_digit (junk : Bytes) :
    ∀ c, (10 :: 0 :: junk).head? = some c → isDigit c = false := by
  rintro c ⟨⟩
  rfl

theorem newline_not_digit : ∀ c, (10 :: 0 :: ([] : Bytes)).head? = some c → isDigit c = false :=
  head_newline_not_digit []

theorem entryOfBuf_fixed (l junk : Bytes) (e : EntryB) (h : FixedColumns l e) :
    entryOfBuf (l ++ 10 :: 0 :: junk) stdCols 44 = e := by
  have htail := head_newline_not_digit junk
  have hlen := h.len
  have hz : ∀ c ∈ l, c ≠ 0 := fun c hc => (h.clean c hc).1
  have a0 := atoi_of_IntAt l (10 :: 0 :: junk) 0 _ (by omega) h.desc htail
  have a3 := atoi_of_IntAt l (10 :: 0 :: junk) 63 _ (by omega) h.scale htail
  have a4 := atoi_of_IntAt l (10 :: 0 :: junk) 66 _ (by omega) h.ref htail
  have a5 := atoi_of_IntAt l (10 :: 0 :: junk) 78 _ (by omega) h.nbits htail
  have hd : (l ++ 10 :: 0 :: junk).drop 8 = l.drop 8 ++ 10 :: 0 :: junk :=
    List.drop_append_of_le_length (by omega)
  have hlen8 : 44 ≤ (l.drop 8).length := by rw [List.length_drop]; omega
  have hdescr : rtrim (· == 32) (cstr (((l ++ 10 :: 0 :: junk).drop 8).take
      (trimLen (l ++ 10 :: 0 :: junk) 8 44))) = rtrim (· == 32) ((l.drop 8).take 44) := by
    rw [take_trimLen (l ++ 10 :: 0 :: junk) 8 44 (by rw [List.length_append]; omega)]
    rw [hd, List.take_append_of_le_length hlen8]
    rw [cstr_clean _ (fun c hc => hz c (List.mem_of_mem_drop (List.mem_of_mem_take (rtrim_sublist _ _ c hc))))]
    exact rtrim_idem _ _
  have hu : ((l ++ 10 :: 0 :: junk).drop 52).take 11 = (l.drop 52).take 11 := by
    rw [List.drop_append_of_le_length (by omega), List.take_append_of_le_length (by rw [List.length_drop]; omega)]
  have hunit : cstr (((l ++ 10 :: 0 :: junk).drop 52).take 11) = (l.drop 52).take 11 := by
    rw [hu]
    exact cstr_clean _ (fun c hc => hz c (List.mem_of_mem_drop (List.mem_of_mem_take hc)))
  unfold entryOfBuf
  have c0 : colAt stdCols 0 = 0 := rfl
  have c1 : colAt stdCols 1 = 8 := rfl
  have c2 : colAt stdCols 2 = 52 := rfl
  have c3 : colAt stdCols 3 = 63 := rfl
  have c4 : colAt stdCols 4 = 66 := rfl
  have c5 : colAt stdCols 5 = 78 := rfl
  simp only [c0, c1, c2, c3, c4, c5]
  rw [hdescr, hunit, a0, a3, a4, a5, ← h.descr, ← h.unit, ← h.typ]
  cases e
  simp

/-- **parse-line**: on a well-formed fixed-column line, whatever the line buffer held before, the
loader appends exactly the entry the line denotes -/
theorem parse_line (l junk : Bytes) (e : EntryB) (s : BRead) (hc : s.count = 6) (hcol : s.col = stdCols)
    (hdl : s.desclen = 44) (h : FixedColumns l e) :
    bLine true { s with buf := l ++ 10 :: 0 :: junk } =
      { s with buf := l ++ 10 :: 0 :: junk, out := e :: s.out } := by
  have hhead : (l ++ 10 :: 0 :: junk).head? = some 48 := by
    rw [List.head?_append, h.first]; rfl
  have n1 := startsWith_head_ne _ (asciiBytes "DATA_CATEGORY=") 48 68 hhead (by decide +kernel) (by decide)
  have n2 := startsWith_head_ne _ (asciiBytes "DATA_DESCRIPTION=") 48 68 hhead (by decide +kernel) (by decide)
  have n3 := startsWith_head_ne _ (asciiBytes "** VERSION") 48 42 hhead (by decide +kernel) (by decide)
  have hlen : ¬ (cstr (l ++ 10 :: 0 :: junk)).length < 82 := by
    rw [cstr_line l junk h.clean, List.length_append]; have := h.len; simp; omega
  have hatoi : atoi (l ++ 10 :: 0 :: junk) = (e.desc : Int) := by
    have := atoi_of_IntAt l (10 :: 0 :: junk) 0 _ (by omega) h.desc (head_newline_not_digit junk)
    simpa using this
  have hdiv : ¬ ((e.desc : Int).tdiv 100000 != 0) = true := by
    have : (e.desc : Int).tdiv 100000 = 0 := by
      have := h.descF
      rw [Int.tdiv_eq_ediv_of_nonneg (by omega)]
      omega
    rw [this]; decide
  unfold bLine
  simp only [n1, n2, n3, hhead, hlen, hatoi, hdiv, hc, hcol, hdl, Bool.false_eq_true, if_false,
    Bool.and_false, Bool.not_true, Bool.false_and, Bool.true_and]
  simp [entryOfBuf_fixed l junk e h]

end Bufr.Tbl
