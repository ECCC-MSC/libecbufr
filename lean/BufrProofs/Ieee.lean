import BufrModel.Ieee
import BufrProofs.SoftFloat
import Mathlib.Data.Nat.Bitwise
/-
  The portable IEEE 754 codec of bufr_ieee754.c (C19).  Decoding a bit string gives its IEEE value
  (`hostVal = Spec.ieeeValue`).  The encoder's bit-extraction loop keeps `(ival + dvalue)·2^rem`
  constant (`LoopInv`), so for any exponent guess within the contract `2^(g−2) ≤ x < 2^(g+2)` it
  recovers the significand of a normal value, and that of every subnormal; both encoders are one
  `encodeFmt`, the inverse of `hostVal` over any format `FmtOK c w`.
-/
namespace Bufr

theorem ipow2_eq (e : Int) : ipow2 e = (2 : ℚ) ^ e := SF.natPow_eq_zpow 2 e

theorem zpow2_lt {a b : Int} (h : a < b) : (2 : ℚ) ^ a < 2 ^ b := SF.zpow2_lt h

theorem twoPow_eq (e : Int) : Spec.twoPow e = (2 : ℚ) ^ e := by
  cases e with
  | ofNat n => simp [Spec.twoPow]
  | negSucc n =>
    simp only [Spec.twoPow, Int.negSucc_eq]
    rw [zpow_neg]
    push_cast
    norm_cast
    simp

/-- on positive rationals `ilog2q` is the soft-float's `ilog2`: its test `2^k ≤ q` is `2^k · den ≤ num` -/
theorem ilog2q_eq (q : ℚ) (hq : 0 < q) : ilog2q q = SF.ilog2 q := by
  have hd : (0 : ℚ) < q.den := by exact_mod_cast q.den_pos
  have hqe : (q.num.natAbs : ℚ) / q.den = q := by
    rw [Nat.cast_natAbs, Int.cast_abs, abs_of_pos (by exact_mod_cast Rat.num_pos.mpr hq), Rat.num_div_den]
  exact if_congr (by rw [← le_div_iff₀ hd, hqe]; rfl) rfl rfl

theorem ilog2q_spec (q : ℚ) (hq : 0 < q) : (2 : ℚ) ^ ilog2q q ≤ q ∧ q < 2 ^ (ilog2q q + 1) := by
  rw [ilog2q_eq q hq]; exact SF.ilog2_spec_pos q hq

theorem ilog2q_unique (q : ℚ) (e : Int) (h1 : (2 : ℚ) ^ e ≤ q) (h2 : q < 2 ^ (e + 1)) : ilog2q q = e := by
  rw [ilog2q_eq q (lt_of_lt_of_le (SF.zpow2_pos e) h1)]; exact SF.ilog2_unique q e h1 h2

theorem rneq_int (n : Int) : rneq (n : ℚ) = n := SF.rne_int n

theorem flr_exact (p : Nat) (umin : Int) (n : Nat) (k : Int) (hn : n < 2 ^ p) (hk : umin ≤ k) :
    flr p umin ((n : ℚ) * 2 ^ k) = (n : ℚ) * 2 ^ k := by
  unfold flr
  split_ifs with h0
  · exact h0.symm
  have hq : 0 < (n : ℚ) * 2 ^ k := lt_of_le_of_ne (mul_nonneg n.cast_nonneg (SF.zpow2_pos k).le) (Ne.symm h0)
  have hub : (n : ℚ) * 2 ^ k < 2 ^ ((p : Int) + k) := by
    rw [SF.zpow2_add, zpow_natCast]
    exact mul_lt_mul_of_pos_right (by exact_mod_cast hn) (SF.zpow2_pos k)
  have hle : ilog2q ((n : ℚ) * 2 ^ k) < (p : Int) + k :=
    SF.zpow2_lt_iff.mp (lt_of_le_of_lt (ilog2q_spec _ hq).1 hub)
  simp only [ipow2_eq]
  rw [← Int.cast_natCast n] at hle ⊢
  exact SF.rne_scale_exact n (max_le (by omega) hk)

theorem and_two_pow_ne_zero (f k : Nat) : (f &&& 2 ^ k ≠ 0) ↔ f / 2 ^ k % 2 = 1 := by
  rw [Nat.and_two_pow, Nat.toNat_testBit]
  have h2 : 0 < 2 ^ k := Nat.two_pow_pos k
  rcases Nat.mod_two_eq_zero_or_one (f / 2 ^ k) with h | h <;> simp [h]

theorem sigValueLoop_eq (f n : Nat) (k : Nat) (hk : k ≤ n) (s : ℚ) :
    sigValueLoop f n k s = s + ((f % 2 ^ k : Nat) : ℚ) / 2 ^ n := by
  induction k generalizing s with
  | zero => simp [sigValueLoop, Nat.mod_one]
  | succ k ih =>
    unfold sigValueLoop
    simp only
    rw [ih (by omega)]
    have hi : n - (n - k) = k := by omega
    rw [hi, Nat.one_shiftLeft, Nat.mod_pow_succ]
    have h2 : (2 : ℚ) ^ n = 2 ^ (n - k) * 2 ^ k := by rw [← pow_add]; congr 1; omega
    have hp1 := pow_pos (by norm_num : (0 : ℚ) < 2) k
    have hp2 := pow_pos (by norm_num : (0 : ℚ) < 2) (n - k)
    rcases Nat.mod_two_eq_zero_or_one (f / 2 ^ k) with h | h
    · have : ¬ (f &&& 2 ^ k ≠ 0) := by rw [and_two_pow_ne_zero]; omega
      rw [if_neg this, h]; simp
    · have : (f &&& 2 ^ k ≠ 0) := by rw [and_two_pow_ne_zero]; omega
      rw [if_pos this, h]
      push_cast
      rw [h2]
      field_simp
      ring

theorem significandValue_eq (f n : Nat) (d : Bool) (hf : f < 2 ^ n) :
    significandValue f n d = (if d then 0 else 1) + (f : ℚ) / 2 ^ n := by
  unfold significandValue
  rw [sigValueLoop_eq f n n le_rfl, Nat.mod_eq_of_lt hf]

theorem flr_significand_mul_ipow2 (t : Nat) (bias : Int) (E f : Nat) (hf : f < 2 ^ t) :
    flr (t + 1) (1 - bias - t)
      (significandValue f t (decide (E = 0)) * ipow2 (if E = 0 then 1 - bias else (E : Int) - bias))
    = if E = 0 then (f : ℚ) * ipow2 (1 - bias - t)
      else ((2 ^ t + f : Nat) : ℚ) * ipow2 ((E : Int) - bias - t) := by
  rw [significandValue_eq f t _ hf]
  have hp := pow_pos (by norm_num : (0 : ℚ) < 2) t
  by_cases hE : E = 0
  · simp only [hE, decide_true, if_true, ipow2_eq]
    have : (0 + (f : ℚ) / 2 ^ t) * 2 ^ (1 - bias) = (f : ℚ) * 2 ^ (1 - bias - (t : Int)) := by
      rw [SF.zpow2_sub (1 - bias) (t : Int), zpow_natCast, zero_add]; field_simp
    rw [this]
    exact flr_exact (t + 1) _ f _ (by rw [pow_succ]; omega) le_rfl
  · simp only [hE, decide_false, Bool.false_eq_true, if_false, ipow2_eq]
    have : (1 + (f : ℚ) / 2 ^ t) * 2 ^ ((E : Int) - bias) = ((2 ^ t + f : Nat) : ℚ) * 2 ^ ((E : Int) - bias - (t : Int)) := by
      rw [SF.zpow2_sub _ (t : Int), zpow_natCast]; push_cast; field_simp
    rw [this]
    exact flr_exact (t + 1) _ _ _ (by rw [pow_succ]; omega) (by omega)

theorem fld_frac (b t : Nat) (m : Nat) (hm : m = 2 ^ t - 1) : b &&& m = b % 2 ^ t := by
  subst hm; exact Nat.and_two_pow_sub_one_eq_mod b t

theorem fld_exp (b w t : Nat) (m : Nat) (hm : m = (2 ^ w - 1) <<< t) :
    (b &&& m) >>> t = b / 2 ^ t % 2 ^ w := by
  subst hm
  rw [Nat.shiftRight_and_distrib, Nat.shiftLeft_shiftRight, Nat.and_two_pow_sub_one_eq_mod,
    Nat.shiftRight_eq_div_pow]

theorem fld_sign (b i : Nat) (m : Nat) (hm : m = 2 ^ i) :
    decide (b &&& m ≠ 0) = b.testBit i := by
  subst hm
  rw [Nat.testBit_eq_decide_div_mod_eq]
  exact decide_eq_decide.mpr (and_two_pow_ne_zero b i)

/-- both decoders, once the masks and shifts are read as the fields of `b` -/
theorem decode_fields (w t b : Nat) (hw : 1 ≤ w) :
    (if b / 2 ^ t % 2 ^ w = 0 ∧ b % 2 ^ t = 0 then FVal.fin (b.testBit (t + w)) 0
      else if b / 2 ^ t % 2 ^ w = 2 ^ w - 1 then
        (if b % 2 ^ t = 0 then FVal.inf (b.testBit (t + w)) else FVal.nan)
      else FVal.fin (b.testBit (t + w)) (flr (t + 1) (1 - (2 ^ (w - 1) - 1) - t)
        (significandValue (b % 2 ^ t) t (decide (b / 2 ^ t % 2 ^ w = 0)) *
          ipow2 (if b / 2 ^ t % 2 ^ w = 0 then 1 - (2 ^ (w - 1) - 1) else ((b / 2 ^ t % 2 ^ w : Nat) : ℤ) - (2 ^ (w - 1) - 1)))))
    = hostVal w t b := by
  unfold hostVal
  have hf : b % 2 ^ t < 2 ^ t := Nat.mod_lt _ (Nat.two_pow_pos _)
  have h1 : 1 < 2 ^ w := Nat.one_lt_two_pow (by omega)
  generalize b % 2 ^ t = f at *
  generalize b / 2 ^ t % 2 ^ w = E at *
  simp only
  rw [flr_significand_mul_ipow2 t _ E f hf, show (1 : ℤ) - (2 ^ (w - 1) - 1) - t = 2 - 2 ^ (w - 1) - t by ring]
  by_cases hE : E = 0
  · subst hE
    have hne : ¬ 0 = 2 ^ w - 1 := by omega
    by_cases hf0 : f = 0
    · simp only [hf0, hne, and_self, if_true, if_false, Nat.cast_zero, zero_mul]
    · simp only [hf0, hne, and_false, if_true, if_false]
  · by_cases hE1 : E = 2 ^ w - 1
    · subst hE1; simp only [hE, false_and, if_true, if_false]
    · simp only [hE, hE1, false_and, if_false]

theorem decodeSingle_eq (b : Nat) : decodeSingle b = hostVal32 b := by
  unfold decodeSingle
  simp only [fld_frac b 23 0x007fffff (by norm_num), fld_exp b 8 23 0x7f800000 (by decide),
    fld_sign b 31 0x80000000 (by norm_num)]
  exact decode_fields 8 23 b (by norm_num)

theorem decodeDouble_eq (b : Nat) : decodeDouble b = hostVal64 b := by
  unfold decodeDouble
  simp only [fld_frac b 52 0x000fffffffffffff (by norm_num), fld_exp b 11 52 0x7ff0000000000000 (by decide),
    fld_sign b 63 0x8000000000000000 (by norm_num)]
  exact decode_fields 11 52 b (by norm_num)

theorem hostVal_eq_ieee (w t b : Nat) : hostVal w t b = Spec.ieeeValue w t b := by
  unfold hostVal Spec.ieeeValue
  simp only [twoPow_eq, ipow2_eq]
  have hs : b.testBit (t + w) = decide (b / 2 ^ (t + w) % 2 = 1) := Nat.testBit_eq_decide_div_mod_eq
  rw [hs]
  have hp := pow_pos (by norm_num : (0 : ℚ) < 2) t
  have hb : ((2 : Int) ^ (w - 1) - 1) = (((2 ^ (w - 1) : Nat) : Int) - 1) := by push_cast; rfl
  split
  · rfl
  split
  · congr 1
    rw [zero_add]
    have : (2 : Int) - 2 ^ (w - 1) - (t : Int) = (1 - (2 ^ (w - 1) - 1)) - (t : Int) := by ring
    rw [this, SF.zpow2_sub _ (t : Int), zpow_natCast]
    push_cast
    field_simp
  · congr 1
    rw [SF.zpow2_sub _ (t : Int), zpow_natCast]
    push_cast
    field_simp

theorem hostVal32_eq (b : Nat) : hostVal32 b = Spec.ieeeValue32 b := hostVal_eq_ieee 8 23 b

theorem hostVal64_eq (b : Nat) : hostVal64 b = Spec.ieeeValue64 b := hostVal_eq_ieee 11 52 b

theorem shiftLeft_one_or_one (a : Nat) : (a <<< 1 ||| 1) = 2 * a + 1 := by
  rw [← Nat.shiftLeft_add_eq_or_of_lt (by norm_num : 1 < 2 ^ 1), Nat.shiftLeft_eq]; omega

theorem shiftLeft_one_eq_two_mul (a : Nat) : (a <<< 1) = 2 * a := by
  rw [Nat.shiftLeft_eq]; omega

/-- one iteration of `encLoop` (`encLoop_succ`): shift the next bit of `dvalue` into `ival` -/
def encStep (W nb : Nat) (den : Bool) (s : SigSt) : SigSt :=
  let n := s.n + 1
  let d := s.dvalue * 2
  let s1 : SigSt :=
    if 1 ≤ d then
      { s with ival := ((s.ival <<< 1) ||| 1) % 2 ^ W, dvalue := d - 1, n := n,
               ni0 := if s.ni0 = 0 then n else s.ni0 }
    else
      { s with ival := (s.ival <<< 1) % 2 ^ W, dvalue := d, n := n }
  if 0 < s1.ni0 ∨ 0 < nb ∨ den then { s1 with rem := s1.rem - 1 } else s1

theorem encLoop_succ (W nb : Nat) (den : Bool) (fuel : Nat) (s : SigSt) :
    encLoop W nb den (fuel + 1) s =
      if 0 < s.dvalue ∧ 0 < s.rem then encLoop W nb den fuel (encStep W nb den s) else s := rfl

theorem encStep_one (W nb : Nat) (den : Bool) (s : SigSt) (h : 1 ≤ s.dvalue * 2) :
    encStep W nb den s =
      { ival := (2 * s.ival + 1) % 2 ^ W, dvalue := s.dvalue * 2 - 1, rem := s.rem - 1, n := s.n + 1,
        ni0 := if s.ni0 = 0 then s.n + 1 else s.ni0 } := by
  have hm : 0 < (if s.ni0 = 0 then s.n + 1 else s.ni0) ∨ 0 < nb ∨ den = true := by
    left; split <;> omega
  unfold encStep
  simp only [h, if_true, hm, shiftLeft_one_or_one]

theorem encStep_zero (W nb : Nat) (den : Bool) (s : SigSt) (h : ¬ 1 ≤ s.dvalue * 2) :
    encStep W nb den s =
      { ival := (2 * s.ival) % 2 ^ W, dvalue := s.dvalue * 2,
        rem := if 0 < s.ni0 ∨ 0 < nb ∨ den = true then s.rem - 1 else s.rem, n := s.n + 1, ni0 := s.ni0 } := by
  unfold encStep
  simp only [h, if_false, shiftLeft_one_eq_two_mul]
  split <;> rfl

/-- the leading-zero phase (`nb = 0`, no 1 bit seen yet): `rem` is not decremented until the first
1 bit, found at iteration `j` when `2^−j ≤ dvalue < 2^(1−j)` -/
theorem encLoop_lead (W : Nat) (hW : 1 ≤ W) (j : Nat) (hj : 1 ≤ j) (fuel : Nat) (s : SigSt)
    (hi : s.ival = 0) (hn : s.ni0 = 0) (hrem : 0 < s.rem)
    (hlo : 1 ≤ s.dvalue * 2 ^ j) (hhi : s.dvalue * 2 ^ j < 2) :
    encLoop W 0 false (fuel + j) s = encLoop W 0 false fuel
      { ival := 1, dvalue := s.dvalue * 2 ^ j - 1, rem := s.rem - 1, n := s.n + j, ni0 := s.n + j } := by
  have hpos : 0 < s.dvalue := by
    by_contra hc
    have := mul_nonpos_of_nonpos_of_nonneg (not_lt.mp hc) (pow_nonneg (by norm_num : (0 : ℚ) ≤ 2) j)
    linarith
  induction j, hj using Nat.le_induction generalizing s with
  | base =>
    rw [pow_one] at hlo
    rw [encLoop_succ, if_pos ⟨hpos, hrem⟩, encStep_one _ _ _ _ hlo, hi, hn, pow_one, Nat.mul_zero,
      Nat.zero_add, Nat.mod_eq_of_lt (Nat.one_lt_two_pow (by omega)), if_pos rfl]
  | succ j hj ih =>
    rw [pow_succ, mul_comm _ (2 : ℚ), ← mul_assoc] at hlo hhi ⊢
    have hlt : ¬ (1 ≤ s.dvalue * 2) := by
      intro h
      have h2j : (2 : ℚ) ≤ 2 ^ j := by
        calc (2 : ℚ) = 2 ^ 1 := by norm_num
          _ ≤ 2 ^ j := pow_le_pow_right₀ (by norm_num) hj
      have := mul_le_mul h h2j (by norm_num) (by linarith)
      linarith
    have hm : ¬ (0 < s.ni0 ∨ 0 < 0 ∨ false = true) := by simp [hn]
    rw [← Nat.add_assoc, encLoop_succ, if_pos ⟨hpos, hrem⟩, encStep_zero _ _ _ _ hlt, if_neg hm, hi, Nat.mul_zero, Nat.zero_mod,
      ih { ival := 0, dvalue := s.dvalue * 2, rem := s.rem, n := s.n + 1, ni0 := s.ni0 } rfl hn hrem hlo hhi
        (by show 0 < s.dvalue * 2; linarith)]
    simp only [Nat.add_assoc, Nat.add_comm 1 j]

/-- what holds while `rem` is being decremented (after the first 1 bit, or `nb > 0`, or a subnormal):
the bits still to come, `dvalue`, and those already shifted in make up the integer `C` at scale `2^rem` -/
structure LoopInv (nb : Nat) (den : Bool) (C : Nat) (s : SigSt) : Prop where
  mode : 0 < s.ni0 ∨ 0 < nb ∨ den = true
  d0 : 0 ≤ s.dvalue
  d1 : s.dvalue < 1
  rem : 0 ≤ s.rem
  val : ((s.ival : ℚ) + s.dvalue) * 2 ^ s.rem = C

/-- how the loop started at `s` ends: all of `C` is in `ival`, and the loop stopped as soon as
`dvalue = 0` (so `C` is not a multiple of `2^(rem+1)` if at least one step was made) -/
structure LoopEnd (C : Nat) (s r : SigSt) : Prop where
  val : r.ival * 2 ^ r.rem.toNat = C
  rem0 : 0 ≤ r.rem
  rem_le : r.rem ≤ s.rem
  odd : r.rem < s.rem → ∀ k : ℤ, (k : ℚ) * 2 ^ (r.rem + 1) ≠ C
  ni0 : 0 < s.ni0 → r.ni0 = s.ni0

theorem frac_eq_zero_of_add_eq_int (a : ℤ) (d : ℚ) (C : ℤ) (h : (a : ℚ) + d = C) (h0 : 0 ≤ d) (h1 : d < 1) :
    d = 0 ∧ a = C := by
  have e : ((C - a : ℤ) : ℚ) = d := by push_cast; linarith
  have h4 : (0 : ℤ) ≤ C - a := by exact_mod_cast (e ▸ h0 : (0 : ℚ) ≤ ((C - a : ℤ) : ℚ))
  have h5 : C - a < 1 := by exact_mod_cast (e ▸ h1 : ((C - a : ℤ) : ℚ) < 1)
  have h6 : C - a = 0 := by omega
  exact ⟨by rw [← e, h6]; norm_num, by omega⟩

theorem LoopInv.stop {nb : Nat} {den : Bool} {C : Nat} {s : SigSt} (h : LoopInv nb den C s)
    (hz : ¬ (0 < s.dvalue ∧ 0 < s.rem)) : LoopEnd C s s := by
  obtain ⟨_, h0, h1, hr, hv⟩ := h
  refine ⟨?_, hr, le_rfl, fun h => absurd h (lt_irrefl _), fun _ => rfl⟩
  obtain ⟨k, hk⟩ := Int.eq_ofNat_of_zero_le hr
  rw [hk, zpow_natCast] at hv
  rw [hk, Int.toNat_natCast]
  by_cases hd : 0 < s.dvalue
  · have : k = 0 := by have := not_and.mp hz hd; omega
    subst this
    rw [pow_zero, mul_one] at hv ⊢
    exact_mod_cast (frac_eq_zero_of_add_eq_int s.ival s.dvalue C (by exact_mod_cast hv) h0 h1).2
  · rw [le_antisymm (not_lt.mp hd) h0, add_zero] at hv
    exact_mod_cast hv

theorem LoopInv.step {nb : Nat} {den : Bool} {C : Nat} {s : SigSt} (h : LoopInv nb den C s) (W : Nat)
    (hCW : C < 2 ^ W) (hr : 0 < s.rem) :
    LoopInv nb den C (encStep W nb den s) ∧ (encStep W nb den s).rem = s.rem - 1 ∧
      (0 < s.ni0 → (encStep W nb den s).ni0 = s.ni0) := by
  obtain ⟨hm, h0, h1, _, hv⟩ := h
  -- whichever bit `v` is shifted in, `2·ival + v` stays below `C`
  have key : ∀ (v : Nat) (dv : ℚ), 0 ≤ dv → (v : ℚ) + dv = 2 * ((s.ival : ℚ) + s.dvalue) →
      ((v : ℚ) + dv) * 2 ^ (s.rem - 1) = C ∧ v % 2 ^ W = v := by
    intro v dv hdv hsum
    have hC2 : ((v : ℚ) + dv) * 2 ^ (s.rem - 1) = C := by
      have hpow : (2 : ℚ) ^ s.rem = 2 * 2 ^ (s.rem - 1) := by
        rw [← zpow_one_add₀ (by norm_num : (2 : ℚ) ≠ 0)]; congr 1; ring
      rw [hsum, ← hv, hpow]; ring
    refine ⟨hC2, Nat.mod_eq_of_lt (lt_of_le_of_lt ?_ hCW)⟩
    have hp1 : (1 : ℚ) ≤ 2 ^ (s.rem - 1) := one_le_zpow₀ (by norm_num) (by omega)
    have : (v : ℚ) ≤ C := by
      rw [← hC2]
      calc (v : ℚ) ≤ (v : ℚ) + dv := by linarith
        _ ≤ ((v : ℚ) + dv) * 2 ^ (s.rem - 1) := le_mul_of_one_le_right (by positivity) hp1
    exact_mod_cast this
  by_cases hb : 1 ≤ s.dvalue * 2
  · have d0 : 0 ≤ s.dvalue * 2 - 1 := sub_nonneg.mpr hb
    have d1 : s.dvalue * 2 - 1 < 1 :=
      sub_lt_iff_lt_add'.mpr ((mul_lt_mul_of_pos_right h1 two_pos).trans_eq (by norm_num))
    obtain ⟨k1, k2⟩ := key (2 * s.ival + 1) (s.dvalue * 2 - 1) d0 (by push_cast; ring)
    rw [encStep_one _ _ _ _ hb, k2]
    exact ⟨⟨Or.inl (by show 0 < (if s.ni0 = 0 then s.n + 1 else s.ni0); split <;> omega), d0, d1,
      by show 0 ≤ s.rem - 1; omega, k1⟩, rfl, fun h => if_neg (by omega)⟩
  · have d0 : 0 ≤ s.dvalue * 2 := mul_nonneg h0 two_pos.le
    obtain ⟨k1, k2⟩ := key (2 * s.ival) (s.dvalue * 2) d0 (by push_cast; ring)
    rw [encStep_zero _ _ _ _ hb, k2, if_pos hm]
    exact ⟨⟨hm, d0, not_le.mp hb, by show 0 ≤ s.rem - 1; omega, k1⟩, rfl, fun _ => rfl⟩

theorem encLoop_run (W nb : Nat) (den : Bool) (C : Nat) (hCW : C < 2 ^ W) (fuel : Nat) (s : SigSt)
    (h : LoopInv nb den C s) (hfuel : s.rem.toNat ≤ fuel) : LoopEnd C s (encLoop W nb den fuel s) := by
  induction fuel generalizing s with
  | zero => exact h.stop (by have := h.rem; omega)
  | succ fuel ih =>
    rw [encLoop_succ]
    by_cases hcond : 0 < s.dvalue ∧ 0 < s.rem
    · rw [if_pos hcond]
      obtain ⟨hi, hrem, hni⟩ := h.step W hCW hcond.2
      obtain ⟨e1, e2, e3, e4, e5⟩ := ih _ hi (by omega)
      rw [hrem] at e3 e4
      refine ⟨e1, e2, by omega, fun _ k hk => ?_, fun hn => (e5 (by rw [hni hn]; exact hn)).trans (hni hn)⟩
      rcases lt_or_eq_of_le e3 with hlt | heq
      · exact e4 hlt k hk
      · -- the last step was made with `dvalue ≠ 0`: `C / 2^s.rem = ival + dvalue` is not an integer
        rw [heq, sub_add_cancel, ← h.val] at hk
        have := frac_eq_zero_of_add_eq_int s.ival s.dvalue k
          (by exact_mod_cast (mul_right_cancel₀ (SF.zpow2_pos s.rem).ne' hk).symm) h.d0 h.d1
        exact absurd this.1 hcond.1.ne'
    · rw [if_neg hcond]; exact h.stop hcond

/-! ### `bufr_*_get_significand` -/

/-- what `getSignificand` needs of a format: room in the word and enough iterations -/
structure CfgOK (c : FCfg) : Prop where
  prec : c.prec = c.nbits + 1
  word : c.nbits + 2 ≤ c.word
  umin : c.umin = c.emin - c.nbits
  emin : c.emin ≤ -2
  emax : 0 ≤ c.emax
  fuel : c.nbits + 4 ≤ c.fuel
  nbits : 1 ≤ c.nbits

theorem cfg32_ok : CfgOK cfg32 := by constructor <;> decide

theorem cfg64_ok : CfgOK cfg64 := by constructor <;> decide

theorem shiftLeft_and_mask (iv k M W t : Nat) (h : iv * 2 ^ k = M) (hM : M < 2 ^ W) :
    ((iv <<< k) % 2 ^ W) &&& (2 ^ t - 1) = M % 2 ^ t := by
  rw [Nat.shiftLeft_eq, h, Nat.mod_eq_of_lt hM, Nat.and_two_pow_sub_one_eq_mod]

theorem clampExp_window (c : FCfg) (hmin : c.emin ≤ c.emax) (x : ℚ) (hx : ¬ x < ipow2 c.emin) (e g : Int)
    (he1 : c.emin ≤ e) (he2 : e ≤ c.emax) (h1 : e - 1 ≤ g) (h2 : g ≤ e + 2) :
    e - 1 ≤ clampExp c x g ∧ clampExp c x g ≤ e + 2 ∧ c.emin ≤ clampExp c x g ∧ clampExp c x g ≤ c.emax := by
  unfold clampExp
  simp only [hx, or_false]
  split_ifs <;> omega

theorem sigInit_eq (c : FCfg) (fv : ℚ) (q0 : Nat) (hfl : ⌊fv⌋ = (q0 : ℤ)) (hq : q0 < 2 ^ c.word) :
    sigInit c fv = (if 0 < q0 then leftestBit q0 else 0,
      { ival := q0, dvalue := fv - q0,
        rem := if 0 < (if 0 < q0 then leftestBit q0 else 0)
          then (c.nbits : ℤ) - (if 0 < q0 then leftestBit q0 else 0 : Nat) + 1 else (c.nbits : ℤ) + 1,
        n := 0, ni0 := 0 }) := by
  unfold sigInit
  have : fv.floor = (q0 : ℤ) := hfl
  simp only [this, Int.toNat_natCast, Nat.mod_eq_of_lt hq]

theorem sigInit_frac (c : FCfg) (fv : ℚ) (h0 : 0 ≤ fv) (h1 : fv < 1) :
    sigInit c fv = (0, { ival := 0, dvalue := fv, rem := (c.nbits : ℤ) + 1, n := 0, ni0 := 0 }) := by
  have hfl : ⌊fv⌋ = ((0 : Nat) : ℤ) := by
    rw [Int.floor_eq_iff]
    constructor
    · simpa using h0
    · simpa using h1
  rw [sigInit_eq c fv 0 hfl (Nat.two_pow_pos _)]
  simp only [lt_irrefl, if_false, Nat.cast_zero, sub_zero]

theorem leftestBit_eq (q k : Nat) (h1 : 2 ^ k ≤ q) (h2 : q < 2 ^ (k + 1)) : leftestBit q = k + 1 := by
  unfold leftestBit
  have hq : q ≠ 0 := by have := Nat.two_pow_pos k; omega
  rw [if_neg hq, (Nat.log2_eq_iff hq).mpr ⟨h1, h2⟩]

theorem mod_two_pow_of_normal (t M : Nat) (hM1 : 2 ^ t ≤ M) (hM2 : M < 2 ^ (t + 1)) : M % 2 ^ t = M - 2 ^ t := by
  rw [Nat.mod_eq_sub_mod hM1, Nat.mod_eq_of_lt (by rw [pow_succ] at hM2; omega)]

/-- `getSignificand` once the exponent is clamped to `E` and the value scaled to `fv` -/
def sigRun (c : FCfg) (E : Int) (den : Bool) (fv : ℚ) : Nat × Int × Bool :=
  sigFinish c E (sigInit c fv).1 (encLoop c.word (sigInit c fv).1 den c.fuel (sigInit c fv).2)

theorem getSignificand_eq (c : FCfg) (x : ℚ) (g : Int) : getSignificand c x g =
    sigRun c (clampExp c x g) (decide (clampExp c x g = c.emin)) (flr c.prec c.umin (x / ipow2 (clampExp c x g))) := rfl

/-- guess at or below the true exponent by `k ≤ t` (the C needs `k ≤ 1`): integer part has `k+1` bits -/
theorem sig_core_ge (c : FCfg) (hc : CfgOK c) (M k : Nat) (E : Int) (den : Bool)
    (hM1 : 2 ^ c.nbits ≤ M) (hM2 : M < 2 ^ (c.nbits + 1)) (hk : k ≤ c.nbits) :
    sigRun c E den ((M : ℚ) * 2 ^ ((k : ℤ) - (c.nbits : ℤ))) = (M - 2 ^ c.nbits, E + k, false) := by
  unfold sigRun
  have hword := hc.word
  have hfuel := hc.fuel
  generalize ht : c.nbits = t at *
  have hP : 0 < 2 ^ (t - k) := Nat.two_pow_pos _
  have hfv : (M : ℚ) * 2 ^ ((k : ℤ) - (t : ℤ)) = (M : ℚ) / 2 ^ (t - k) := by
    rw [show (k : ℤ) - (t : ℤ) = -((t - k : Nat) : ℤ) by omega, zpow_neg, zpow_natCast]; rfl
  rw [hfv]
  generalize hfvd : (M : ℚ) / 2 ^ (t - k) = fv
  set q0 := M / 2 ^ (t - k) with hq0
  have hfl : ⌊fv⌋ = (q0 : ℤ) := by
    rw [← hfvd, ← Int.cast_natCast M, ← Nat.cast_ofNat, ← Nat.cast_pow, Rat.floor_intCast_div_natCast]; norm_cast
  have hsplit : 2 ^ t = 2 ^ k * 2 ^ (t - k) := by rw [← pow_add]; congr 1; omega
  have hq1 : 2 ^ k ≤ q0 := by rw [hq0, Nat.le_div_iff_mul_le hP, ← hsplit]; exact hM1
  have hq2 : q0 < 2 ^ (k + 1) := by
    rw [hq0, Nat.div_lt_iff_lt_mul hP, pow_succ, mul_assoc, mul_comm 2, ← mul_assoc, ← hsplit, ← pow_succ]; exact hM2
  have hMW : M < 2 ^ c.word := lt_of_lt_of_le hM2 (Nat.pow_le_pow_right (by norm_num) (by omega))
  have hqW : q0 < 2 ^ c.word := lt_of_le_of_lt (Nat.div_le_self _ _) hMW
  rw [sigInit_eq c fv q0 hfl hqW]
  simp only [lt_of_lt_of_le (Nat.two_pow_pos k) hq1, if_true, leftestBit_eq q0 k hq1 hq2, ht, Nat.succ_pos]
  rw [show (t : ℤ) - ((k + 1 : Nat) : ℤ) + 1 = ((t - k : Nat) : ℤ) by omega]
  have hfl1 : (q0 : ℚ) ≤ fv := by exact_mod_cast hfl ▸ Int.floor_le fv
  have hfl2 : fv < (q0 : ℚ) + 1 := by exact_mod_cast hfl ▸ Int.lt_floor_add_one fv
  obtain ⟨r1, _, r3, _, _⟩ := encLoop_run c.word (k + 1) den M hMW c.fuel
    { ival := q0, dvalue := fv - q0, rem := ((t - k : Nat) : ℤ), n := 0, ni0 := 0 }
    ⟨Or.inr (Or.inl (Nat.succ_pos k)), sub_nonneg.mpr hfl1, sub_lt_iff_lt_add'.mpr hfl2,
      Int.natCast_nonneg _, by
        show ((q0 : ℚ) + (fv - q0)) * 2 ^ ((t - k : Nat) : ℤ) = M
        rw [zpow_natCast, ← hfvd, add_sub_cancel]
        exact div_mul_cancel₀ _ (pow_ne_zero _ two_ne_zero)⟩
    (by show (((t - k : Nat) : ℤ)).toNat ≤ c.fuel; omega)
  generalize encLoop c.word (k + 1) den c.fuel
    { ival := q0, dvalue := fv - q0, rem := ((t - k : Nat) : ℤ), n := 0, ni0 := 0 } = r at *
  unfold sigFinish
  simp only [Nat.succ_pos, if_true, ht]
  refine Prod.ext ?_ (Prod.ext ?_ rfl)
  · show (if 0 < r.rem then r.ival <<< r.rem.toNat % 2 ^ c.word &&& 2 ^ t - 1 else r.ival &&& 2 ^ t - 1) = M - 2 ^ t
    rw [← mod_two_pow_of_normal t M hM1 hM2]
    split
    · exact shiftLeft_and_mask _ _ M _ _ r1 hMW
    · rw [show r.rem.toNat = 0 by omega, pow_zero, mul_one] at r1
      rw [r1, Nat.and_two_pow_sub_one_eq_mod]
  · show E + ((k + 1 : Nat) : ℤ) - 1 = E + k
    push_cast; ring

/-- guess above the true exponent by `j ∈ 1..4` (the C needs `j ≤ 2`), not taken for a subnormal: the
leading-zero phase finds the first 1 bit of `fv < 1` at position `j`, the rest is shifted in with `rem`
counting down from `t` -/
theorem sig_core_lt (c : FCfg) (hc : CfgOK c) (M j : Nat) (E : Int) (hj1 : 1 ≤ j) (hj4 : j ≤ 4)
    (hM1 : 2 ^ c.nbits ≤ M) (hM2 : M < 2 ^ (c.nbits + 1)) (hE : E ≠ c.emin) :
    sigRun c E false ((M : ℚ) * 2 ^ (-(j : ℤ) - (c.nbits : ℤ))) = (M - 2 ^ c.nbits, E - j, false) := by
  unfold sigRun
  have hword := hc.word
  have hfuel := hc.fuel
  generalize hfvd : (M : ℚ) * 2 ^ (-(j : ℤ) - (c.nbits : ℤ)) = fv
  have hfv : fv * 2 ^ j * 2 ^ c.nbits = M := by
    rw [← hfvd, mul_assoc, mul_assoc, ← pow_add, ← zpow_natCast, ← SF.zpow2_add,
      show -(j : ℤ) - (c.nbits : ℤ) + ((j + c.nbits : Nat) : ℤ) = 0 by push_cast; ring, zpow_zero, mul_one]
  have hp2 : (0 : ℚ) < 2 ^ c.nbits := by positivity
  have hlo : 1 ≤ fv * 2 ^ j := by
    rw [← mul_le_mul_iff_of_pos_right hp2, hfv, one_mul]; exact_mod_cast hM1
  have hhi : fv * 2 ^ j < 2 := by
    rw [← mul_lt_mul_iff_of_pos_right hp2, hfv, ← pow_succ']; exact_mod_cast hM2
  have h2j : (2 : ℚ) ≤ 2 ^ j := by
    calc (2 : ℚ) = 2 ^ 1 := by norm_num
      _ ≤ 2 ^ j := pow_le_pow_right₀ (by norm_num) hj1
  have hfv0 : 0 ≤ fv :=
    ((mul_pos_iff_of_pos_right (lt_of_lt_of_le two_pos h2j)).mp (lt_of_lt_of_le one_pos hlo)).le
  have hfv1 : fv < 1 :=
    lt_of_mul_lt_mul_right ((lt_of_lt_of_le hhi h2j).trans_eq (one_mul _).symm) (le_trans two_pos.le h2j)
  have hMW : M < 2 ^ c.word := lt_of_lt_of_le hM2 (Nat.pow_le_pow_right (by norm_num) (by omega))
  rw [sigInit_frac c fv hfv0 hfv1, show c.fuel = (c.fuel - j) + j by omega,
    encLoop_lead c.word (by omega) j hj1 (c.fuel - j)
      { ival := 0, dvalue := fv, rem := (c.nbits : ℤ) + 1, n := 0, ni0 := 0 } rfl rfl
      (by show (0 : ℤ) < (c.nbits : ℤ) + 1; omega) hlo hhi]
  simp only [Nat.zero_add, add_sub_cancel_right]
  obtain ⟨r1, _, _, _, r5⟩ := encLoop_run c.word 0 false M hMW (c.fuel - j)
    { ival := 1, dvalue := fv * 2 ^ j - 1, rem := (c.nbits : ℤ), n := j, ni0 := j }
    ⟨Or.inl (Nat.lt_of_lt_of_le Nat.zero_lt_one hj1), sub_nonneg.mpr hlo, sub_lt_iff_lt_add'.mpr (hhi.trans_eq one_add_one_eq_two.symm),
      Int.natCast_nonneg _, by
        show (((1 : Nat) : ℚ) + (fv * 2 ^ j - 1)) * 2 ^ (c.nbits : ℤ) = M
        rw [zpow_natCast, Nat.cast_one, add_sub_cancel, hfv]⟩
    (by show ((c.nbits : ℤ)).toNat ≤ c.fuel - j; omega)
  generalize encLoop c.word 0 false (c.fuel - j)
    { ival := 1, dvalue := fv * 2 ^ j - 1, rem := (c.nbits : ℤ), n := j, ni0 := j } = r at *
  unfold sigFinish
  simp only [lt_irrefl, if_false, hE]
  rw [shiftLeft_and_mask _ _ M _ _ r1 hMW, mod_two_pow_of_normal _ M hM1 hM2, r5 (by show 0 < j; omega)]

/-- every non-zero subnormal (`expon = emin`, so `rem` is decremented from the first iteration) -/
theorem sig_sub (c : FCfg) (hc : CfgOK c) (M : Nat) (hM1 : 0 < M) (hM2 : M < 2 ^ c.nbits) :
    sigRun c c.emin true ((M : ℚ) * 2 ^ (-(c.nbits : ℤ))) = (M, c.emin, true) := by
  unfold sigRun
  have hword := hc.word
  have hfuel := hc.fuel
  have hp2 : (0 : ℚ) < 2 ^ c.nbits := by positivity
  rw [zpow_neg, zpow_natCast, ← div_eq_mul_inv]
  generalize hfvd : (M : ℚ) / 2 ^ c.nbits = fv
  have hfv0 : 0 ≤ fv := by rw [← hfvd]; positivity
  have hfv1 : fv < 1 := by rw [← hfvd, div_lt_one hp2]; exact_mod_cast hM2
  have hMW : 2 * M < 2 ^ c.word :=
    lt_of_lt_of_le (by rw [pow_succ]; omega) (Nat.pow_le_pow_right (by norm_num) (show c.nbits + 1 ≤ c.word by omega))
  rw [sigInit_frac c fv hfv0 hfv1]
  obtain ⟨r1, r2, r3, r4, _⟩ := encLoop_run c.word 0 true (2 * M) hMW c.fuel
    { ival := 0, dvalue := fv, rem := (c.nbits : ℤ) + 1, n := 0, ni0 := 0 }
    ⟨Or.inr (Or.inr rfl), hfv0, hfv1, by show (0 : ℤ) ≤ (c.nbits : ℤ) + 1; omega, by
        show (((0 : Nat) : ℚ) + fv) * 2 ^ ((c.nbits : ℤ) + 1) = ((2 * M : Nat) : ℚ)
        rw [Nat.cast_zero, zero_add, ← hfvd, ← Nat.cast_succ, zpow_natCast, pow_succ, ← mul_assoc,
          div_mul_cancel₀ _ hp2.ne']
        push_cast; ring⟩
    (by show ((c.nbits : ℤ) + 1).toNat ≤ c.fuel; omega)
  generalize encLoop c.word 0 true c.fuel
    { ival := 0, dvalue := fv, rem := (c.nbits : ℤ) + 1, n := 0, ni0 := 0 } = r at *
  change r.rem ≤ (c.nbits : ℤ) + 1 at r3
  change r.rem < (c.nbits : ℤ) + 1 → _ at r4
  unfold sigFinish
  simp only [lt_irrefl, if_false, if_true]
  refine Prod.ext ?_ rfl
  show (if 1 < r.rem then r.ival <<< (r.rem - 1).toNat % 2 ^ c.word &&& 2 ^ c.nbits - 1 else r.ival) = M
  -- `2M` is even, so the loop did not stop at `rem = 0`
  have hr0 : r.rem ≠ 0 := fun h0 =>
    r4 (by rw [h0]; omega) (M : ℤ) (by rw [h0]; push_cast; ring)
  rw [show r.rem.toNat = (r.rem - 1).toNat + 1 by omega, pow_succ, ← mul_assoc, mul_comm 2] at r1
  have r1' := Nat.eq_of_mul_eq_mul_right (by norm_num : 0 < 2) r1
  split
  · rw [shiftLeft_and_mask _ _ M _ _ r1' (by omega), Nat.mod_eq_of_lt hM2]
  · rwa [show (r.rem - 1).toNat = 0 by omega, pow_zero, mul_one] at r1'

theorem mant_bounds (t M : Nat) (e : Int) (h1 : 2 ^ t ≤ M) (h2 : M < 2 ^ (t + 1)) :
    (2 : ℚ) ^ e ≤ (M : ℚ) * 2 ^ (e - (t : ℤ)) ∧ (M : ℚ) * 2 ^ (e - (t : ℤ)) < 2 ^ (e + 1) := by
  have hp := SF.zpow2_pos (e - (t : ℤ))
  have e1 : (2 : ℚ) ^ e = ((2 ^ t : Nat) : ℚ) * 2 ^ (e - (t : ℤ)) := by
    rw [Nat.cast_pow, Nat.cast_ofNat, ← zpow_natCast, ← SF.zpow2_add]; congr 1; ring
  have e2 : (2 : ℚ) ^ (e + 1) = ((2 ^ (t + 1) : Nat) : ℚ) * 2 ^ (e - (t : ℤ)) := by
    rw [Nat.cast_pow, Nat.cast_ofNat, ← zpow_natCast, ← SF.zpow2_add]; congr 1; push_cast; ring
  rw [e1, e2]
  exact ⟨mul_le_mul_of_nonneg_right (by exact_mod_cast h1) hp.le,
    mul_lt_mul_of_pos_right (by exact_mod_cast h2) hp⟩

/-- the scaled value `fvalue / pow(2.0, expon)` of an integer multiple of the smallest ulp is exact -/
theorem flr_scaled (c : FCfg) (hc : CfgOK c) (M : Nat) (hM : M < 2 ^ (c.nbits + 1)) (e E : Int)
    (hE : c.emin ≤ e - E) :
    flr c.prec c.umin ((M : ℚ) * ipow2 (e - (c.nbits : ℤ)) / ipow2 E) = (M : ℚ) * 2 ^ (e - E - (c.nbits : ℤ)) := by
  rw [ipow2_eq, ipow2_eq, mul_div_assoc, ← SF.zpow2_sub, show e - (c.nbits : ℤ) - E = e - E - (c.nbits : ℤ) by ring]
  exact flr_exact c.prec c.umin M _ (by rw [hc.prec]; exact hM) (by rw [hc.umin]; omega)

theorem getSignificand_normal (c : FCfg) (hc : CfgOK c) (M : Nat) (e g : Int)
    (hM1 : 2 ^ c.nbits ≤ M) (hM2 : M < 2 ^ (c.nbits + 1)) (he1 : c.emin ≤ e) (he2 : e ≤ c.emax)
    (hg : GuessOK ((M : ℚ) * ipow2 (e - (c.nbits : ℤ))) g) :
    getSignificand c ((M : ℚ) * ipow2 (e - (c.nbits : ℤ))) g = (M - 2 ^ c.nbits, e, false) := by
  have hemin := hc.emin
  have hnb := hc.nbits
  obtain ⟨hx1, hx2⟩ := mant_bounds c.nbits M e hM1 hM2
  obtain ⟨hg1, hg2⟩ := hg
  simp only [ipow2_eq] at hg1 hg2
  have hgl : g - 2 < e + 1 := SF.zpow2_lt_iff.mp (lt_of_le_of_lt hg1 hx2)
  have hgu : e < g + 2 := SF.zpow2_lt_iff.mp (lt_of_le_of_lt hx1 hg2)
  obtain ⟨w1, w2, w3, w4⟩ := clampExp_window c (by omega) ((M : ℚ) * ipow2 (e - (c.nbits : ℤ)))
    (by rw [not_lt, ipow2_eq, ipow2_eq]; exact le_trans (SF.zpow2_le he1) hx1) e g he1 he2 (by omega) (by omega)
  rw [getSignificand_eq]
  generalize clampExp c ((M : ℚ) * ipow2 (e - (c.nbits : ℤ))) g = E at *
  rw [flr_scaled c hc M hM2 e E (by omega)]
  by_cases hd : 0 ≤ e - E
  · obtain ⟨k, hk⟩ := Int.eq_ofNat_of_zero_le hd
    rw [hk, sig_core_ge c hc M k E _ hM1 hM2 (by omega)]
    congr 2; omega
  · obtain ⟨j, hj⟩ := Int.eq_ofNat_of_zero_le (by omega : 0 ≤ E - e)
    rw [show e - E = -(j : ℤ) by omega, decide_eq_false (by omega : ¬ E = c.emin),
      sig_core_lt c hc M j E (by omega) (by omega) hM1 hM2 (by omega)]
    congr 2; omega

theorem getSignificand_sub (c : FCfg) (hc : CfgOK c) (M : Nat) (g : Int)
    (hM1 : 0 < M) (hM2 : M < 2 ^ c.nbits) :
    getSignificand c ((M : ℚ) * ipow2 (c.emin - (c.nbits : ℤ))) g = (M, c.emin, true) := by
  have hemax := hc.emax
  have hemin := hc.emin
  have hsub : (M : ℚ) * ipow2 (c.emin - (c.nbits : ℤ)) < ipow2 c.emin := by
    rw [ipow2_eq, ipow2_eq, SF.zpow2_sub, zpow_natCast, mul_div_assoc', div_lt_iff₀ (by positivity)]
    exact mul_lt_mul_of_pos_right (by exact_mod_cast hM2) (SF.zpow2_pos _) |>.trans_eq (mul_comm _ _)
  have hcl : clampExp c ((M : ℚ) * ipow2 (c.emin - (c.nbits : ℤ))) g = c.emin := by
    unfold clampExp; simp only [hsub, or_true, if_true]; split_ifs <;> omega
  rw [getSignificand_eq, hcl, decide_eq_true rfl]
  rw [flr_scaled c hc M (lt_trans hM2 (Nat.pow_lt_pow_right (by norm_num) (Nat.lt_succ_self _))) c.emin c.emin
    (by omega), sub_self, zero_sub]
  exact sig_sub c hc M hM1 hM2

theorem or_two_pow_eq_add (x i : Nat) (hx : x < 2 ^ i) : x ||| 2 ^ i = x + 2 ^ i := by
  rw [Nat.or_comm, ← Nat.one_shiftLeft, ← Nat.shiftLeft_add_eq_or_of_lt hx, Nat.add_comm]

theorem shiftLeft_or_eq_add (E f t : Nat) (hf : f < 2 ^ t) : (E <<< t ||| f) = E * 2 ^ t + f := by
  rw [← Nat.shiftLeft_add_eq_or_of_lt hf, Nat.shiftLeft_eq]

theorem eq_sign_exp_frac (b t w : Nat) (hb : b < 2 ^ (t + w + 1)) :
    b = (b / 2 ^ (t + w) % 2) * 2 ^ (t + w) + (b / 2 ^ t % 2 ^ w * 2 ^ t + b % 2 ^ t) := by
  have h4 : b / 2 ^ (t + w) % 2 = b / 2 ^ (t + w) :=
    Nat.mod_eq_of_lt (Nat.div_lt_of_lt_mul (by rw [← pow_succ]; exact hb))
  rw [h4, pow_add, ← Nat.div_div_eq_div_mul]
  conv_lhs => rw [← Nat.div_add_mod b (2 ^ t), ← Nat.div_add_mod (b / 2 ^ t) (2 ^ w)]
  ring

/-- `c` is the IEEE interchange format with `w` exponent bits and `c.nbits` fraction bits -/
structure FmtOK (c : FCfg) (w : Nat) : Prop extends CfgOK c where
  width : c.word = c.nbits + w + 1
  emin_eq : c.emin = 2 - 2 ^ (w - 1)
  emax_eq : c.emax = 2 ^ (w - 1) - 1
  exp : 1 ≤ w

theorem cfg32_fmt : FmtOK cfg32 8 := ⟨cfg32_ok, rfl, by decide, by decide, by decide⟩

theorem cfg64_fmt : FmtOK cfg64 11 := ⟨cfg64_ok, rfl, by decide, by decide, by decide⟩

theorem exp_frac_lt (E f t w : Nat) (hE : E < 2 ^ w) (hf : f < 2 ^ t) : E * 2 ^ t + f < 2 ^ (t + w) :=
  calc E * 2 ^ t + f < (E + 1) * 2 ^ t := by rw [Nat.add_mul]; omega
    _ ≤ 2 ^ w * 2 ^ t := Nat.mul_le_mul_right _ hE
    _ = 2 ^ (t + w) := by rw [pow_add, mul_comm]

theorem or_sign_bit_eq (i b ival : Nat) (hlt : ival < 2 ^ i) (hrec : b = (b / 2 ^ i % 2) * 2 ^ i + ival) :
    (if b.testBit i = true then ival ||| 2 ^ i else ival) = b := by
  rw [Nat.testBit_eq_decide_div_mod_eq]
  rcases Nat.mod_two_eq_zero_or_one (b / 2 ^ i) with h | h
  · rw [h] at hrec
    simp only [h]
    simp
    omega
  · rw [h] at hrec
    simp only [h]
    simp
    rw [or_two_pow_eq_add _ _ hlt]
    omega

theorem hostVal_cases (w t b : Nat) :
    (b / 2 ^ t % 2 ^ w = 2 ^ w - 1 ∧
      hostVal w t b = (if b % 2 ^ t = 0 then .inf (b.testBit (t + w)) else .nan)) ∨
    (b / 2 ^ t % 2 ^ w = 0 ∧
      hostVal w t b = .fin (b.testBit (t + w)) (((b % 2 ^ t : Nat) : ℚ) * ipow2 (2 - 2 ^ (w - 1) - (t : ℤ)))) ∨
    (b / 2 ^ t % 2 ^ w ≠ 2 ^ w - 1 ∧ b / 2 ^ t % 2 ^ w ≠ 0 ∧ hostVal w t b =
      .fin (b.testBit (t + w)) (((2 ^ t + b % 2 ^ t : Nat) : ℚ) *
        ipow2 (((b / 2 ^ t % 2 ^ w : Nat) : ℤ) - (2 ^ (w - 1) - 1) - (t : ℤ)))) := by
  unfold hostVal
  by_cases h1 : b / 2 ^ t % 2 ^ w = 2 ^ w - 1
  · left; exact ⟨h1, by simp only [h1, if_true]⟩
  by_cases h2 : b / 2 ^ t % 2 ^ w = 0
  · right; left
    refine ⟨h2, ?_⟩
    simp only
    rw [if_neg h1, if_pos h2]
  · right; right
    refine ⟨h1, h2, ?_⟩
    simp only
    rw [if_neg h1, if_neg h2]

/-- both encoders: `w` exponent bits; binary64 also assembles a subnormal through the exponent field -/
def encodeFmt (c : FCfg) (w : Nat) (viaExp : Bool) (x : FVal) (g : Int) : Nat :=
  let sign := 2 ^ (c.nbits + w)
  let inf := (2 ^ w - 1) <<< c.nbits
  let bias : Int := 2 ^ (w - 1) - 1
  match x with
  | .nan => inf ||| (1 <<< (c.nbits - 1))
  | .inf neg => if neg then inf ||| sign else inf
  | .fin neg q =>
    if q = 0 then (if neg then 0 ||| sign else 0)
    else
      let (ifract, exponent, denormal) := getSignificand c q g
      let ival :=
        if denormal then
          (if viaExp then (((exponent + bias - 1).toNat <<< c.nbits) ||| ifract) % 2 ^ c.word else ifract)
        else ((((exponent + bias).toNat <<< c.nbits) ||| ifract) % 2 ^ c.word)
      if neg then ival ||| sign else ival

theorem encodeSingle_eq (x : FVal) (g : Int) : encodeSingle x g = encodeFmt cfg32 8 false x g := by
  cases x <;> rfl

theorem encodeDouble_eq (x : FVal) (g : Int) : encodeDouble x g = encodeFmt cfg64 11 true x g := by
  cases x <;> rfl

theorem exp_field_range (w E : Nat) (hw : 1 ≤ w) (h0 : E ≠ 0) (h1 : E ≠ 2 ^ w - 1) (hE : E < 2 ^ w) :
    (2 : ℤ) - 2 ^ (w - 1) ≤ (E : ℤ) - (2 ^ (w - 1) - 1) ∧ (E : ℤ) - (2 ^ (w - 1) - 1) ≤ 2 ^ (w - 1) - 1 := by
  have h2w : ((2 ^ w : Nat) : ℤ) = 2 * 2 ^ (w - 1) := by
    rw [← pow_succ', Nat.sub_add_cancel hw]; norm_cast
  omega

theorem encodeFmt_host (c : FCfg) (w : Nat) (hc : FmtOK c w) (v : Bool) (b : Nat)
    (hb : b < 2 ^ (c.nbits + w + 1)) (g : Int) (hnan : ¬ Spec.isNaN w c.nbits b)
    (hg : GuessOKV c (hostVal w c.nbits b) g) : encodeFmt c w v (hostVal w c.nbits b) g = b := by
  have hok := hc.toCfgOK
  obtain ⟨⟨hprec, hword, humin, hemin, hemax, hfuel, hnb⟩, hW, hmin, hmax, hw⟩ := hc
  have hf : b % 2 ^ c.nbits < 2 ^ c.nbits := Nat.mod_lt _ (Nat.two_pow_pos _)
  have hE : b / 2 ^ c.nbits % 2 ^ w < 2 ^ w := Nat.mod_lt _ (Nat.two_pow_pos _)
  have hrec := eq_sign_exp_frac b c.nbits w hb
  have hlt := exp_frac_lt _ _ _ _ hE hf
  have hmodW : ∀ x, x < 2 ^ (c.nbits + w) → x % 2 ^ c.word = x := fun x hx =>
    Nat.mod_eq_of_lt (lt_trans hx (by rw [hW]; exact Nat.pow_lt_pow_right (by norm_num) (Nat.lt_succ_self _)))
  unfold encodeFmt
  rcases hostVal_cases w c.nbits b with ⟨hE1, hv⟩ | ⟨hE0, hv⟩ | ⟨hE1, hE0, hv⟩
  · -- infinity
    have hf0 : b % 2 ^ c.nbits = 0 := by by_contra h; exact hnan ⟨hE1, h⟩
    rw [hv, if_pos hf0]
    rw [hE1, hf0, Nat.add_zero] at hrec hlt
    simp only [Nat.shiftLeft_eq]
    exact or_sign_bit_eq _ b _ hlt hrec
  · -- zero and subnormal
    rw [hv]
    rw [hE0, Nat.zero_mul, Nat.zero_add] at hrec hlt
    by_cases hf0 : b % 2 ^ c.nbits = 0
    · rw [hf0] at hrec hlt
      simp only [hf0, Nat.cast_zero, zero_mul, if_true]
      exact or_sign_bit_eq _ b 0 hlt hrec
    · have hq0 : ((b % 2 ^ c.nbits : Nat) : ℚ) * ipow2 (2 - 2 ^ (w - 1) - (c.nbits : ℤ)) ≠ 0 := by
        rw [ipow2_eq]
        exact mul_ne_zero (by exact_mod_cast hf0) (SF.zpow2_pos _).ne'
      have hz : (c.emin + (2 ^ (w - 1) - 1) - 1).toNat = 0 := by rw [hmin]; omega
      simp only [if_neg hq0]
      rw [← hmin, getSignificand_sub c hok _ g (Nat.pos_of_ne_zero hf0) hf]
      simp only [if_true, hz, Nat.zero_shiftLeft, Nat.zero_or,
        hmodW _ hlt, ite_self]
      exact or_sign_bit_eq _ b _ hlt hrec
  · -- normal
    rw [hv] at hg ⊢
    have hM1 : 2 ^ c.nbits ≤ 2 ^ c.nbits + b % 2 ^ c.nbits := Nat.le_add_right _ _
    have hM2 : 2 ^ c.nbits + b % 2 ^ c.nbits < 2 ^ (c.nbits + 1) := by rw [pow_succ]; omega
    have he1 := le_of_eq_of_le hmin (exp_field_range w _ hw hE0 hE1 hE).1
    have he2 := (exp_field_range w _ hw hE0 hE1 hE).2.trans_eq hmax.symm
    obtain ⟨hx1, _⟩ := mant_bounds c.nbits _ (((b / 2 ^ c.nbits % 2 ^ w : Nat) : ℤ) - (2 ^ (w - 1) - 1)) hM1 hM2
    have hq0 : ((2 ^ c.nbits + b % 2 ^ c.nbits : Nat) : ℚ) *
        ipow2 (((b / 2 ^ c.nbits % 2 ^ w : Nat) : ℤ) - (2 ^ (w - 1) - 1) - (c.nbits : ℤ)) ≠ 0 := by
      rw [ipow2_eq]; exact (lt_of_lt_of_le (SF.zpow2_pos _) hx1).ne'
    have hgo := (hg.resolve_left hq0).resolve_left
      (by rw [not_lt, ipow2_eq, ipow2_eq]; exact le_trans (SF.zpow2_le he1) hx1)
    simp only [if_neg hq0]
    rw [getSignificand_normal c hok _ _ g hM1 hM2 he1 he2 hgo]
    simp only [Bool.false_eq_true, if_false, Nat.add_sub_cancel_left, sub_add_cancel, Int.toNat_natCast,
      shiftLeft_or_eq_add _ _ _ hf, hmodW _ hlt]
    exact or_sign_bit_eq _ b _ hlt hrec

theorem encodeSingle_host (b : Nat) (hb : b < 2 ^ 32) (g : Int)
    (hnan : ¬ Spec.isNaN 8 23 b) (hg : GuessOKV cfg32 (hostVal32 b) g) : encodeSingle (hostVal32 b) g = b := by
  rw [encodeSingle_eq]; exact encodeFmt_host cfg32 8 cfg32_fmt false b hb g hnan hg

theorem encodeDouble_host (b : Nat) (hb : b < 2 ^ 64) (g : Int)
    (hnan : ¬ Spec.isNaN 11 52 b) (hg : GuessOKV cfg64 (hostVal64 b) g) : encodeDouble (hostVal64 b) g = b := by
  rw [encodeDouble_eq]; exact encodeFmt_host cfg64 11 cfg64_fmt true b hb g hnan hg

theorem hostVal_nan (w t b : Nat) (h : Spec.isNaN w t b) : hostVal w t b = .nan := by
  obtain ⟨h1, h2⟩ := h
  unfold hostVal
  simp only
  rw [if_pos h1, if_neg h2]

theorem foldl_eq_zero_of_forall (f : Int → Nat → Int) (l : List Nat) (h : ∀ b ∈ l, f 0 b = 0) : l.foldl f 0 = 0 := by
  induction l with
  | nil => rfl
  | cons a l ih =>
    rw [List.foldl_cons, h a List.mem_cons_self]
    exact ih (fun b hb => h b (List.mem_cons_of_mem _ hb))

/-- each of the four `test_*` functions compares a value with itself -/
theorem test_eq_one_of_eq {v w : FVal} (h : v = w) : (if feq v w ∨ (v.isNan ∧ w.isNan) then (1 : Int) else -1) = 1 := by
  subst h
  cases v <;> simp [feq, FVal.isNan]

theorem testDecodingSingle_ok (b : Nat) : testDecodingSingle b = 1 := test_eq_one_of_eq (decodeSingle_eq b)

theorem testDecodingDouble_ok (b : Nat) : testDecodingDouble b = 1 := test_eq_one_of_eq (decodeDouble_eq b)

theorem hostVal32_encode (b : Nat) (hb : b < 2 ^ 32) (g : Int) (hg : GuessOKV cfg32 (hostVal32 b) g) :
    hostVal32 (encodeSingle (hostVal32 b) g) = hostVal32 b := by
  by_cases hn : Spec.isNaN 8 23 b
  · have : hostVal32 b = .nan := hostVal_nan 8 23 b hn
    rw [this]
    exact hostVal_nan 8 23 (0x7f800000 ||| (1 <<< 22)) (by decide)
  · rw [encodeSingle_host b hb g hn hg]

theorem hostVal64_encode (b : Nat) (hb : b < 2 ^ 64) (g : Int) (hg : GuessOKV cfg64 (hostVal64 b) g) :
    hostVal64 (encodeDouble (hostVal64 b) g) = hostVal64 b := by
  by_cases hn : Spec.isNaN 11 52 b
  · have : hostVal64 b = .nan := hostVal_nan 11 52 b hn
    rw [this]
    exact hostVal_nan 11 52 (0x7ff0000000000000 ||| (1 <<< 51)) (by decide)
  · rw [encodeDouble_host b hb g hn hg]

/-- the self-test passes on an IEEE host whose libm meets the guess contract -/
theorem checkCompliance_passes (env : SelfTestEnv) (hs : env.sizesOK = true)
    (h32 : ∀ b ∈ selfTestValues32, GuessOKV cfg32 (hostVal32 b) (env.guess32 b))
    (h64 : ∀ b ∈ selfTestValues64, GuessOKV cfg64 (hostVal64 b) (env.guess64 b)) :
    checkCompliance env = 1 := by
  have hl32 : ∀ b ∈ selfTestValues32, b < 2 ^ 32 := by decide
  have hl64 : ∀ b ∈ selfTestValues64, b < 2 ^ 64 := by decide
  have e32 : ∀ b ∈ selfTestValues32, testEncodingSingle env b = 1 := fun b hb =>
    test_eq_one_of_eq (hostVal32_encode b (hl32 b hb) _ (h32 b hb))
  have e64 : ∀ b ∈ selfTestValues64, testEncodingDouble env b = 1 := fun b hb =>
    test_eq_one_of_eq (hostVal64_encode b (hl64 b hb) _ (h64 b hb))
  have hfold32 : checkSingleMemLayout env = 0 := by
    unfold checkSingleMemLayout
    apply foldl_eq_zero_of_forall
    intro b hb
    simp only [testDecodingSingle_ok, e32 b hb]
    rfl
  have hfold64 : checkDoubleMemLayout env = 0 := by
    unfold checkDoubleMemLayout
    apply foldl_eq_zero_of_forall
    intro b hb
    simp only [testDecodingDouble_ok, e64 b hb]
    rfl
  have hmatch : checkMatchEncoding2Decoding env = 0 := by
    unfold checkMatchEncoding2Decoding
    have m32 : (0x7f7fffff : Nat) ∈ selfTestValues32 := by decide
    have m64 : (0x7fefffffffffffff : Nat) ∈ selfTestValues64 := by decide
    rw [encodeSingle_host 0x7f7fffff (by norm_num) _ (by decide) (h32 _ m32),
      encodeDouble_host 0x7fefffffffffffff (by norm_num) _ (by decide) (h64 _ m64)]
    simp
  have hsign : checkSignBit = 1 := by decide
  unfold checkCompliance
  simp [hs, hsign, hfold32, hfold64, hmatch]

