import BufrProofs.Dump
/-
  C13, dataset level: on the text `Dump.print` writes, `bufr_read_dataset_dump` reads the header block
  and the subsets back, and `bufr_genmsgs_from_dump` reads several datasets one after the other.
-/
namespace Bufr.Dump
open Bufr Bufr.SF Bufr.Printf

theorem wrapI16_id (v : Int) (h : -32768 ≤ v ∧ v ≤ 32767) : wrapI16 v = v := by
  unfold wrapI16
  simp only
  split_ifs <;> omega

theorem testBit_64 (i : Nat) : (64:Nat).testBit i = decide (i = 6) := by
  have h64 : (64:Nat) = 2 ^ 6 := by norm_num
  rw [h64, Nat.testBit_two_pow]
  by_cases h : i = 6 <;> simp [h, eq_comm]

/-- setting the compression bit of a data flag that has it changes nothing -/
theorem orI32_64_id (v : Int) (h0 : 0 ≤ v) (h1 : v < 2 ^ 31) (hb : wrapU32 v &&& 64 ≠ 0) : orI32 v 64 = v := by
  unfold orI32
  have hw : wrapU32 v = v.toNat := wrapU32_of_range v h0 (by omega)
  rw [hw] at hb ⊢
  have hbit : v.toNat.testBit 6 = true := by
    by_contra hc
    apply hb
    apply Nat.eq_of_testBit_eq
    intro i
    rw [Nat.testBit_and, testBit_64]
    by_cases hi : i = 6
    · subst hi; simp at hc; simp [hc]
    · simp [hi]
  have hor : v.toNat ||| 64 = v.toNat := by
    apply Nat.eq_of_testBit_eq
    intro i
    rw [Nat.testBit_or, testBit_64]
    by_cases hi : i = 6
    · subst hi; simp [hbit]
    · simp [hi]
  rw [hor]
  have : ((v.toNat : Nat) : Int) = v := Int.toNat_of_nonneg h0
  rw [this]
  exact wrapI32_of_range v (by omega) h1

/-- the `DATASUBSET` line ends the header: it is not a key, and it is left in the stream -/
theorem loadHeader_stop (F : Nat) (hF : 1 ≤ F) (h : Hdr) (i n : Nat) (hi : i < 10 ^ 9) (hn : n < 10 ^ 9) (s : List Nat) :
    loadHeader F h (dsLine i n ++ s) = (h, dsLine i n ++ s, true) := by
  obtain ⟨r, he, hr, hl⟩ := dsLine_eq i n hi hn
  rw [show dsLine i n ++ s = B "DATASUBSET" ++ 32 :: (r ++ 10 :: s) by rw [he]; simp,
    loadHeader_word F hF h _ r s 32 (by decide +kernel) (Or.inr rfl) hr (by rw [B_ds]; simp; omega), findKey_datasubset]
  have : startsWith (B "DATASUBSE") (B "DATASUBSET" ++ 32 :: (r ++ [10])) = true := by
    rw [show B "DATASUBSET" = B "DATASUBSE" ++ [84] by decide +kernel, List.append_assoc]
    exact startsWith_self_append _ _
  simp only [this]

/-- a header string in quotes after a 13-character key and `=`: everything between the first and the last quote -/
theorem hdrString_quoted (K cs : List Nat) (hK : K.length = 13) :
    hdrString (K ++ 61 :: (34 :: (cs ++ [34]) ++ [10])) = some cs := by
  unfold hdrString
  rw [← hK, show K ++ 61 :: (34 :: (cs ++ [34]) ++ [10]) = K ++ 61 :: 34 :: (cs ++ [34, 10]) by simp, List.drop_left]
  have htw : (61 :: 34 :: (cs ++ [34, 10])).takeWhile (· ≠ 34) = [61] := by simp [List.takeWhile]
  have hrev : (cs ++ [34, 10]).reverse.dropWhile (· ≠ 34) = 34 :: cs.reverse := by simp [List.dropWhile]
  simp only [htw, List.length_singleton]
  rw [if_pos (by simp), show (61 :: 34 :: (cs ++ [34, 10])).drop (1 + 1) = cs ++ [34, 10] by simp]
  simp only [hrev, List.length_cons, List.length_reverse]
  rw [if_neg (by omega)]
  simp

theorem loadHeader_hstr (F : Nat) (hF : 1 ≤ F) (h : Hdr) (cs s : List Nat) (hcs : ∀ x ∈ cs, x ≠ 10 ∧ x ≠ 0)
    (hl : cs.length ≤ 2000) :
    loadHeader F h (B "HEADER_STRING=\"" ++ cs ++ B "\"\n" ++ s) =
      loadHeader (F - 1) { h with headerString := some cs } s := by
  have hK : (HKey.headerString, "HEADER_STRING") ∈ hkeys := by decide +kernel
  have hc : (B "HEADER_STRING").length ≤ 30 ∧ ∀ c ∈ B "HEADER_STRING", 65 ≤ c ∧ c ≤ 95 := hkeys_chars (_, _) hK
  have hf : findKey (B "HEADER_STRING") = some (.headerString, "HEADER_STRING".length) := findKey_hkeys (_, _) hK
  rw [show B "HEADER_STRING=\"" ++ cs ++ B "\"\n" ++ s = B "HEADER_STRING" ++ 61 :: ((34 :: (cs ++ [34])) ++ 10 :: s) by
      rw [show B "HEADER_STRING=\"" = B "HEADER_STRING" ++ [61, 34] by decide +kernel,
        show B "\"\n" = [34, 10] by decide +kernel]
      simp,
    loadHeader_word F hF h _ (34 :: (cs ++ [34])) s 61 hc.2 (Or.inl rfl)
      (by simp only [List.forall_mem_cons, List.forall_mem_append]; exact ⟨by decide, hcs, by decide⟩)
      (by simp; omega), hf]
  simp only [applyKey, hdrString_quoted _ cs (by decide +kernel : (B "HEADER_STRING").length = 13)]

/-- the header the loader holds after reading the block `printHeader ed h` into a dataset whose
header was `h0` (the sub-centre is only written for edition 3 and later) -/
def hdrLoaded (ed : Nat) (h0 h : Hdr) : Hdr :=
  { h with subCentre := if ed ≥ 3 then h.subCentre else h0.subCentre,
           headerString := match h.headerString with | some s => some (cstr s) | none => h0.headerString,
           s1data := h0.s1data }

/-- header fields in the range of their C type; the data flag non-negative -/
structure HdrOK (h : Hdr) : Prop where
  mt : -32768 ≤ h.masterTable ∧ h.masterTable ≤ 32767
  ce : -(2:Int) ^ 31 ≤ h.centre ∧ h.centre < 2 ^ 31
  sc : -32768 ≤ h.subCentre ∧ h.subCentre ≤ 32767
  us : -32768 ≤ h.updSeq ∧ h.updSeq ≤ 32767
  ty : -32768 ≤ h.msgType ∧ h.msgType ≤ 32767
  is : -32768 ≤ h.interSub ∧ h.interSub ≤ 32767
  ls : -32768 ≤ h.localSub ∧ h.localSub ≤ 32767
  mv : -32768 ≤ h.masterVer ∧ h.masterVer ≤ 32767
  lv : -32768 ≤ h.localVer ∧ h.localVer ≤ 32767
  ye : -32768 ≤ h.year ∧ h.year ≤ 32767
  mo : -32768 ≤ h.month ∧ h.month ≤ 32767
  da : -32768 ≤ h.day ∧ h.day ≤ 32767
  ho : -32768 ≤ h.hour ∧ h.hour ≤ 32767
  mi : -32768 ≤ h.minute ∧ h.minute ≤ 32767
  se : -32768 ≤ h.second ∧ h.second ≤ 32767
  fl : 0 ≤ h.dataFlag ∧ h.dataFlag < 2 ^ 31
  hs : ∀ s, h.headerString = some s → (∀ x ∈ cstr s, x ≠ 10) ∧ (cstr s).length ≤ 2000

theorem mem_cstr_ne_zero (s : List Nat) : ∀ x ∈ cstr s, x ≠ 0 := by
  intro x hx
  simpa using List.all_eq_true.mp List.all_takeWhile x hx

/-- the `HEADER_STRING` line of a dataset that has a header string -/
def hsLine : Option (List Nat) → List Nat
  | some s => B "HEADER_STRING=\"" ++ (cstr s ++ B "\"\n")
  | none => []

theorem loadHeader_hsLine (F : Nat) (hF : 2 ≤ F) (h0 : Hdr) (hs : Option (List Nat)) :
    (∀ s, hs = some s → (∀ x ∈ cstr s, x ≠ 10) ∧ (cstr s).length ≤ 2000) →
    ∃ F1, F ≤ F1 + 1 ∧ ∀ t, loadHeader F h0 (hsLine hs ++ t) =
      loadHeader F1 { h0 with headerString := match hs with | some s => some (cstr s) | none => h0.headerString } t := by
  intro hok
  cases hs with
  | none => exact ⟨F, by omega, fun t => rfl⟩
  | some str =>
    have hs := hok str rfl
    exact ⟨F - 1, by omega, fun t => by
      simpa only [hsLine, List.append_assoc] using
        loadHeader_hstr F (by omega) h0 (cstr str) t (fun x hx => ⟨hs.1 x hx, mem_cstr_ne_zero str x hx⟩) hs.2⟩

/-- **the header block reads back**: Section 1 fields, data flag, header string.  (Fuel: the loop spends
one unit per line; the header has at most 19 lines and the `DATASUBSET` line ends it.) -/
theorem loadHeader_printHeader (ed : Nat) (hed : ed < 2 ^ 31) (h0 h : Hdr) (hok : HdrOK h)
    (i n : Nat) (hi : i < 10 ^ 9) (hn : n < 10 ^ 9) (s : List Nat) (F : Nat) (hF : 21 ≤ F) :
    loadHeader F h0 (printHeader ed h ++ (dsLine i n ++ s)) = (hdrLoaded ed h0 h, dsLine i n ++ s, true) := by
  have i16 : ∀ v : Int, -32768 ≤ v ∧ v ≤ 32767 → -(2:Int) ^ 31 ≤ v ∧ v < 2 ^ 31 := fun v hv => by omega
  have hfl : -(2:Int) ^ 31 ≤ h.dataFlag ∧ h.dataFlag < 2 ^ 31 := ⟨by have := hok.fl.1; omega, hok.fl.2⟩
  have hcomp : -(2:Int) ^ 31 ≤ (if wrapU32 h.dataFlag &&& 64 ≠ 0 then 1 else 0 : Int) ∧
      (if wrapU32 h.dataFlag &&& 64 ≠ 0 then 1 else 0 : Int) < 2 ^ 31 := by split_ifs <;> simp
  unfold printHeader
  simp only [List.append_assoc]
  rw [loadHeader_kv .edition _ (by decide +kernel) _ (by omega) _ (by omega)]
  simp only [applyKey]
  change loadHeader (F - 1) h0 (hsLine h.headerString ++ _) = _
  obtain ⟨F1, hF1, e1⟩ := loadHeader_hsLine (F - 1) (by omega) h0 h.headerString hok.hs
  rw [e1, loadHeader_kv .masterTable _ (by decide +kernel) _ (i16 _ hok.mt) _ (by omega),
    loadHeader_kv .centre _ (by decide +kernel) _ hok.ce _ (by omega)]
  -- the sub-centre, from edition 3 on
  obtain ⟨F2, hF2, e2⟩ : ∃ F2, 16 ≤ F2 ∧ ∀ (hx : Hdr) t,
      loadHeader (F1 - 1 - 1) hx ((if ed ≥ 3 then kv "ORIG_SUB_CENTER" h.subCentre else []) ++ t) =
        loadHeader F2 { hx with subCentre := if ed ≥ 3 then h.subCentre else hx.subCentre } t := by
    by_cases h3 : ed ≥ 3
    · refine ⟨F1 - 1 - 1 - 1, by omega, fun hx t => ?_⟩
      rw [if_pos h3, if_pos h3, loadHeader_kv .subCentre _ (by decide +kernel) _ (i16 _ hok.sc) _ (by omega)]
      simp only [applyKey, hdrInt_kv _ _ (i16 _ hok.sc), wrapI16_id _ hok.sc]
    · exact ⟨F1 - 1 - 1, by omega, fun hx t => by rw [if_neg h3, if_neg h3]; rfl⟩
  rw [e2,
    loadHeader_kv .updSeq _ (by decide +kernel) _ (i16 _ hok.us) _ (by omega),
    loadHeader_kv .msgType _ (by decide +kernel) _ (i16 _ hok.ty) _ (by omega),
    loadHeader_kv .interSub _ (by decide +kernel) _ (i16 _ hok.is) _ (by omega),
    loadHeader_kv .localSub _ (by decide +kernel) _ (i16 _ hok.ls) _ (by omega),
    loadHeader_kv .masterVer _ (by decide +kernel) _ (i16 _ hok.mv) _ (by omega),
    loadHeader_kv .localVer _ (by decide +kernel) _ (i16 _ hok.lv) _ (by omega),
    loadHeader_kv .year _ (by decide +kernel) _ (i16 _ hok.ye) _ (by omega),
    loadHeader_kv .month _ (by decide +kernel) _ (i16 _ hok.mo) _ (by omega),
    loadHeader_kv .day _ (by decide +kernel) _ (i16 _ hok.da) _ (by omega),
    loadHeader_kv .hour _ (by decide +kernel) _ (i16 _ hok.ho) _ (by omega),
    loadHeader_kv .minute _ (by decide +kernel) _ (i16 _ hok.mi) _ (by omega),
    loadHeader_kv .second _ (by decide +kernel) _ (i16 _ hok.se) _ (by omega),
    loadHeader_kv .dataFlag _ (by decide +kernel) _ hfl _ (by omega),
    loadHeader_kv .compressed _ (by decide +kernel) _ hcomp _ (by omega),
    loadHeader_stop _ (by omega)  _ i n hi hn s]
  simp only [applyKey, hdrInt_kv _ _ (i16 _ hok.mt), hdrInt_kv _ _ hok.ce, hdrInt_kv _ _ (i16 _ hok.us),
    hdrInt_kv _ _ (i16 _ hok.ty), hdrInt_kv _ _ (i16 _ hok.is), hdrInt_kv _ _ (i16 _ hok.ls),
    hdrInt_kv _ _ (i16 _ hok.mv), hdrInt_kv _ _ (i16 _ hok.lv), hdrInt_kv _ _ (i16 _ hok.ye),
    hdrInt_kv _ _ (i16 _ hok.mo), hdrInt_kv _ _ (i16 _ hok.da), hdrInt_kv _ _ (i16 _ hok.ho),
    hdrInt_kv _ _ (i16 _ hok.mi), hdrInt_kv _ _ (i16 _ hok.se), hdrInt_kv _ _ hfl, hdrInt_kv _ _ hcomp,
    wrapI16_id _ hok.mt, wrapI16_id _ hok.us, wrapI16_id _ hok.ty, wrapI16_id _ hok.is, wrapI16_id _ hok.ls,
    wrapI16_id _ hok.mv, wrapI16_id _ hok.lv, wrapI16_id _ hok.ye, wrapI16_id _ hok.mo, wrapI16_id _ hok.da,
    wrapI16_id _ hok.ho, wrapI16_id _ hok.mi, wrapI16_id _ hok.se]
  congr 1
  cases hhs : h.headerString <;> by_cases hb : wrapU32 h.dataFlag &&& 64 ≠ 0 <;>
    simp [hb, hdrLoaded, hhs, orI32_64_id h.dataFlag hok.fl.1 hok.fl.2]

theorem kv_length (K : String) (v : Int) : 3 ≤ (kv K v).length := by
  unfold kv
  have := List.length_pos_of_ne_nil (fmtInt_ne_nil v)
  simp [show B "=" = [61] by decide]; omega

theorem printHeader_length (ed : Nat) (h : Hdr) : 21 ≤ (printHeader ed h).length := by
  unfold printHeader
  simp only [List.length_append]
  have k := kv_length
  -- seven of the lines, three characters each, are enough
  have h1 := k "BUFR_EDITION" ed
  have h2 := k "BUFR_MASTER_TABLE" h.masterTable
  have h3 := k "ORIG_CENTER" h.centre
  have h4 := k "UPDATE_SEQUENCE" h.updSeq
  have h5 := k "DATA_CATEGORY" h.msgType
  have h6 := k "INTERN_SUB_CATEGORY" h.interSub
  have h7 := k "LOCAL_SUB_CATEGORY" h.localSub
  omega

theorem printNode_length (trim : Bool) (mt : List Nat) (n : Node) : 1 ≤ (printNode trim mt n).length := by
  unfold printNode; simp

theorem flatMap_length_ge {α} (l : List α) (f : α → List Nat) (h : ∀ x ∈ l, 1 ≤ (f x).length) :
    l.length ≤ (l.flatMap f).length := by
  induction l with
  | nil => simp
  | cons a t ih =>
    simp only [List.flatMap_cons, List.length_append, List.length_cons]
    have := h a (by simp)
    have := ih (fun x hx => h x (by simp [hx]))
    omega

theorem printSubsets_length (trim : Bool) (i : Nat) (subs : List (List Node × List (List Nat))) :
    linesOf subs ≤ (printSubsets trim i subs).length := by
  induction subs generalizing i with
  | nil => simp [linesOf]
  | cons p r ih =>
    obtain ⟨ns, ms⟩ := p
    have h1 := ih (i + 1)
    have h2 := flatMap_length_ge (zipMeta ns ms) (fun p => printNode trim p.2 p.1)
      (fun x _ => printNode_length trim x.2 x.1)
    rw [zipMeta_length] at h2
    have h3 : 1 ≤ (B "DATASUBSET ").length := by decide
    simp only [linesOf, List.map_cons, List.sum_cons, printSubsets, printSubset, List.length_append,
      List.length_cons, List.length_nil] at h1 ⊢
    omega

theorem zipMetas_map_fst (ss : List (List Node)) (ms : List (List (List Nat))) : (zipMetas ss ms).map (·.1) = ss := by
  induction ss generalizing ms with
  | nil => rfl
  | cons n t ih => cases ms <;> simp [zipMetas, ih]

theorem finishSubset_blankAdj (T : Tables) (fuel : Nat) (st : LdSt) :
    finishSubset T fuel (blankAdj st) = finishSubset T fuel st := rfl

theorem accum_some (T : Tables) (fuel : Nat) (st : LdSt) (acc : List (List Node)) (inv : Bool) (sts : List LdSt) :
    (accum T fuel (some st) acc inv sts).1.reverse = acc.reverse ++ (finishSubset T fuel st :: sts.map (finishSubset T fuel)) ∧
    (accum T fuel (some st) acc inv sts).2 = (inv || st.invalid || sts.any (·.invalid)) := by
  induction sts generalizing st acc inv with
  | nil => simp [accum, finCur]
  | cons s r ih =>
    have := ih (blankAdj s) (finishSubset T fuel st :: acc) (inv || st.invalid)
    simp only [accum, finCur]
    rw [this.1, this.2, finishSubset_blankAdj]
    simp [blankAdj, Bool.or_assoc]

theorem accum_none (T : Tables) (fuel : Nat) (inv : Bool) (sts : List LdSt) :
    (accum T fuel none [] inv sts).1.reverse = sts.map (finishSubset T fuel) ∧
    (accum T fuel none [] inv sts).2 = (inv || sts.any (·.invalid)) := by
  cases sts with
  | nil => simp [accum, finCur]
  | cons s r =>
    have := accum_some T fuel (blankAdj s) [] inv r
    simp only [accum, finCur]
    rw [this.1, this.2, finishSubset_blankAdj]
    simp [blankAdj, Bool.or_assoc]

/-- the template copy the loader starts every subset from -/
def bsqOf (T : Tables) (t : Template) : List Node := (applyTablesAll T t.edition { enforce := .strict } t.gabarit).1

def bsqErr (T : Tables) (t : Template) : Bool := (applyTablesAll T t.edition { enforce := .strict } t.gabarit).2.2

/-- the text of a dataset is one the reader takes in whole -/
structure TextOK (trim : Bool) (metas : List (List (List Nat))) (ds : Dataset) : Prop where
  hdr : HdrOK ds.hdr
  ne : ds.subsets ≠ []
  nsub : ds.subsets.length + 1 < 10 ^ 9
  nnodes : ∀ ns ∈ ds.subsets, ns.length < 10 ^ 9
  lines : ∀ p ∈ zipMetas ds.subsets metas, ∀ q ∈ zipMeta p.1 p.2, LineOK trim q.2 q.1

/-- the header of the dataset loaded from the text of `ds` into a dataset whose header was `h0` -/
def loadedHdr (ed : Nat) (h0 : Hdr) (ds : Dataset) (invalid : Bool) : Hdr :=
  let h1 := hdrLoaded ed { h0 with headerString := none } ds.hdr
  { h1 with dataFlag := if invalid then orI32 h1.dataFlag 256 else h1.dataFlag }

/-- **reading one printed dataset is walking its records**: `bufr_read_dataset_dump` on the text
`bufr_fdump_dataset` wrote, followed by nothing or by the next dataset -/
theorem readDataset_print (T : Tables) (t : Template) (fuel : Nat) (trim : Bool) (metas : List (List (List Nat)))
    (ds : Dataset) (hok : TextOK trim metas ds) (hed : t.edition < 2 ^ 31) (sts : List LdSt)
    (hw : List.Forall₂ (fun ns st => walk T t.edition fuel trim { todo := bsqOf T t } ns = some st) ds.subsets sts)
    (h0 : Hdr) (tail : List Nat) (ht : Tail tail) :
    readDataset T t fuel h0 (print trim t.edition metas ds ++ tail) =
      (1, { hdr := loadedHdr t.edition h0 ds (bsqErr T t || sts.any (·.invalid)),
            subsets := sts.map (finishSubset T fuel) }, tail) := by
  obtain ⟨ns0, rest0, hss⟩ := List.exists_cons_of_ne_nil hok.ne
  have hz : ∃ m0 zr, zipMetas ds.subsets metas = (ns0, m0) :: zr := by
    rw [hss]; cases metas with
    | nil => exact ⟨[], _, rfl⟩
    | cons m ms => exact ⟨m, _, rfl⟩
  obtain ⟨m0, zr, hz⟩ := hz
  have hzlen : (zipMetas ds.subsets metas).length = ds.subsets.length := by
    have := congrArg List.length (zipMetas_map_fst ds.subsets metas); simpa using this
  have hw' : List.Forall₂ (fun (p : List Node × List (List Nat)) st =>
      walk T t.edition fuel trim { todo := bsqOf T t } p.1 = some st) (zipMetas ds.subsets metas) sts := by
    have := hw
    rw [← zipMetas_map_fst ds.subsets metas] at this
    exact List.forall₂_map_left_iff.mp this
  have hstart : printSubsets trim 0 (zipMetas ds.subsets metas) ++ tail =
      dsLine 1 ns0.length ++ ((zipMeta ns0 m0).flatMap (fun p => printNode trim p.2 p.1) ++ [10] ++ printSubsets trim 1 zr ++ tail) := by
    rw [hz]; simp [printSubsets, printSubset, dsLine]
  unfold readDataset print
  simp only [List.append_assoc]
  have hn0 : ns0.length < 10 ^ 9 := hok.nnodes ns0 (by rw [hss]; simp)
  have hhdr : loadHeader ((printHeader t.edition ds.hdr ++ (printSubsets trim 0 (zipMetas ds.subsets metas) ++ tail)).length + 1)
      { h0 with headerString := none } (printHeader t.edition ds.hdr ++ (printSubsets trim 0 (zipMetas ds.subsets metas) ++ tail)) =
      (hdrLoaded t.edition { h0 with headerString := none } ds.hdr, printSubsets trim 0 (zipMetas ds.subsets metas) ++ tail, true) := by
    rw [hstart]
    exact loadHeader_printHeader t.edition hed _ ds.hdr hok.hdr 1 ns0.length (by norm_num) hn0 _ _
      (by have := printHeader_length t.edition ds.hdr; simp only [List.length_append]; omega)
  rw [hhdr]
  simp only [Bool.not_true, Bool.false_eq_true, if_false]
  have hsub := loadSubsets_printSubsets T t.edition fuel (bsqOf T t) trim (zipMetas ds.subsets metas) sts hw'
    hok.lines 0 (by rw [hzlen]; have := hok.nsub; omega)
    (by intro p hp
        have : p.1 ∈ ds.subsets := by
          rw [← zipMetas_map_fst ds.subsets metas]; exact List.mem_map_of_mem hp
        exact hok.nnodes p.1 this)
    tail ht ((printSubsets trim 0 (zipMetas ds.subsets metas) ++ tail).length + 1)
    (by have := printSubsets_length trim 0 (zipMetas ds.subsets metas); simp only [List.length_append]; omega)
    none [] (bsqErr T t)
  have hne : zipMetas ds.subsets metas ≠ [] := by rw [hz]; simp
  unfold bsqOf bsqErr at hsub
  simp only [bsqErr] at *
  rw [hsub]
  have ha := accum_none T fuel (applyTablesAll T t.edition { enforce := .strict } t.gabarit).2.2 sts
  simp only [hne, ne_eq, not_false_eq_true, true_or, or_true, if_true, ha.1, ha.2, loadedHdr]

theorem print_is_tail (trim : Bool) (ed : Nat) (hed : ed < 2 ^ 31) (metas : List (List (List Nat))) (ds : Dataset)
    (rest : List Nat) : Tail (print trim ed metas ds ++ rest) := by
  obtain ⟨r, hr⟩ : ∃ r, printHeader ed ds.hdr = kv "BUFR_EDITION" ed ++ r :=
    ⟨(printHeader ed ds.hdr).drop (kv "BUFR_EDITION" ed).length, by
      unfold printHeader; simp only [List.append_assoc, List.drop_left]⟩
  rw [show print trim ed metas ds ++ rest =
      B "BUFR_EDITION=" ++ fmtInt (ed : Int) ++ 10 :: (r ++ printSubsets trim 0 (zipMetas ds.subsets metas) ++ rest) by
    unfold print
    rw [hr, kv_eq, show B "BUFR_EDITION=" = B "BUFR_EDITION" ++ [61] by decide +kernel]; simp]
  exact Tail.next _ _ (fun x hx => (fmtInt_chars (ed : Int) x hx).2)
    (by have := fmtInt_length (ed : Int) (by omega); rw [B_be]; simp; omega)

/-- one dataset of a dump file: how it was printed, and where the walks of its subsets end -/
structure Item where
  trim : Bool
  metas : List (List (List Nat))
  ds : Dataset
  sts : List LdSt

/-- the text of the item is readable and its subsets walk to `sts` -/
structure Item.OK (T : Tables) (t : Template) (fuel : Nat) (it : Item) : Prop where
  text : TextOK it.trim it.metas it.ds
  walks : List.Forall₂ (fun ns st => walk T t.edition fuel it.trim { todo := bsqOf T t } ns = some st) it.ds.subsets it.sts

/-- the dataset loaded from the item's text into a dataset whose header was `h0` -/
def Item.loaded (T : Tables) (t : Template) (fuel : Nat) (h0 : Hdr) (it : Item) : Dataset :=
  { hdr := loadedHdr t.edition h0 it.ds (bsqErr T t || it.sts.any (·.invalid)),
    subsets := it.sts.map (finishSubset T fuel) }

/-- the datasets `bufr_genmsgs_from_dump` gets from the items' texts, in order (one dataset object:
the header of each is what the next one starts from) -/
def loadedList (T : Tables) (t : Template) (fuel : Nat) : Hdr → List Item → List Dataset
  | _, [] => []
  | h0, it :: r => it.loaded T t fuel h0 :: loadedList T t fuel (it.loaded T t fuel h0).hdr r

theorem loadAll_nil (T : Tables) (t : Template) (fuel : Nat) (f : Nat) (h : Hdr) :
    loadAll T t fuel (f + 1) h [] = ([], 0) := by
  simp [loadAll, readDataset, loadHeader, fgets]

/-- **several datasets printed one after the other are loaded one by one, in order** -/
theorem loadAll_prints (T : Tables) (t : Template) (fuel : Nat) (hed : t.edition < 2 ^ 31) (items : List Item)
    (hok : ∀ it ∈ items, it.OK T t fuel) (F : Nat) (hF : items.length < F) (h0 : Hdr) :
    loadAll T t fuel F h0 ((items.map fun it => print it.trim t.edition it.metas it.ds).flatten) =
      (loadedList T t fuel h0 items, 0) := by
  induction items generalizing F h0 with
  | nil =>
    obtain ⟨f, rfl⟩ : ∃ f, F = f + 1 := ⟨F - 1, by simp at hF; omega⟩
    simp [loadAll_nil, loadedList]
  | cons it r ih =>
    obtain ⟨f, rfl⟩ : ∃ f, F = f + 1 := ⟨F - 1, by simp at hF; omega⟩
    have hit := hok it (by simp)
    simp only [List.map_cons, List.flatten_cons]
    have htail : Tail ((r.map fun it => print it.trim t.edition it.metas it.ds).flatten) := by
      cases r with
      | nil => exact Tail.eof
      | cons b r' =>
        simp only [List.map_cons, List.flatten_cons]
        exact print_is_tail b.trim t.edition hed b.metas b.ds _
    rw [loadAll, readDataset_print T t fuel it.trim it.metas it.ds hit.text hed it.sts hit.walks h0 _ htail]
    simp only [show ((1:Int) > 0) from by decide, if_true]
    rw [ih (fun x hx => hok x (by simp [hx])) f (by simp at hF; omega)]
    simp [loadedList, Item.loaded]

end Bufr.Dump
