import BufrModel.Codec
import BufrProofs.Bits
/-
  BufrProofs.WriterFields — every writer of the Section 4 encoder (uncompressed subsets and compressed columns alike)
  is `putFields` of an explicit field list: `fieldsDesc` for an element, `fieldsNum`, `fieldsAf`, `fieldsCcitt`,
  `fieldsIeee` for the columns, `encodeFields` for the whole section.  The bit strings of BufrProofs.Codec and the
  growth clause of C16 (with fields of at most 64 bits each write lands inside the allocation and the buffer is
  grown before the next one, whatever size the buffer had to start with: `bufr_encode_message` first allocates the
  *uncompressed* size, which compressed data may exceed) both read them off these equations.
-/
namespace Bufr

/-- the fields `bufr_put_desc_value` writes for a node -/
def fieldsDesc (n : Node) : List (Nat × Nat) :=
  if n.flags.skipped then []
  else
    (if n.enc.afNbits > 0 ∧ n.afW > 0 then [(n.afBits, n.afW)] else []) ++
    (match n.enc.type with
     | .ccitt => padF (valueString n) (n.enc.nbits / 8).toNat
     | .ieee => [(valueBits n, if n.enc.nbits = 64 then 64 else 32)]
     | .numeric | .chngRef | .codetable | .flagtable => [(valueBits n, n.enc.nbits.toNat)]
     | _ => [])

theorem putDescValue_fields (w : W) (n : Node) : putDescValue w n = w.putFields (fieldsDesc n) := by
  unfold putDescValue fieldsDesc
  split
  · rfl
  · rw [putFields_append]
    have haf : (if n.enc.afNbits > 0 ∧ n.afW > 0 then w.putbits n.afBits n.afW else w) =
        w.putFields (if n.enc.afNbits > 0 ∧ n.afW > 0 then [(n.afBits, n.afW)] else []) := by
      split <;> rfl
    simp only [haf]
    cases n.enc.type <;> simp only [putPadString_fields, putFields_cons, putFields_nil]

/-- the fields `bufr_put_numeric_compressed` writes for a column -/
def fieldsNum (col : List Node) : List (Nat × Nat) :=
  match col with
  | [] => []
  | n0 :: _ =>
    let plan := encNumCol n0.enc.nbits (col.map value2bits)
    [(plan.1, n0.enc.nbits.toNat), (plan.2.1, 6)] ++ plan.2.2.flatMap fun v => [(v, plan.2.1)]

theorem putNumericCompressed_fields (w : W) (col : List Node) :
    putNumericCompressed w col = w.putFields (fieldsNum col) := by
  unfold putNumericCompressed fieldsNum
  cases col with
  | nil => rfl
  | cons n0 rest =>
    simp only [putFields_append, putFields_cons, putFields_nil, foldl_putbits (fun v => v)]

def fieldsAf (col : List Node) : List (Nat × Nat) :=
  match col with
  | [] => []
  | n0 :: _ =>
    if n0.enc.afNbits = 0 ∨ n0.afW = 0 then []
    else
      let vals := col.map (·.afBits)
      let umin := listMin vals 0
      let umax := listMax vals 0
      if umin = umax then [(umin, n0.afW), (0, 6)]
      else
        let nbinc := valueNbits (umax - umin)
        [(umin, n0.afW), (nbinc, 6)] ++ col.flatMap fun n => if n.afW > 0 then [(n.afBits - umin, nbinc)] else []

theorem putAfCompressed_fields (w : W) (col : List Node) : putAfCompressed w col = w.putFields (fieldsAf col) := by
  unfold putAfCompressed fieldsAf
  cases col with
  | nil => rfl
  | cons n0 rest =>
    simp only
    split
    · rfl
    · split
      · simp only [putFields_cons, putFields_nil]
      · simp only [putFields_append, putFields_cons, putFields_nil]
        exact foldl_putFields _ _ (fun w n => by split <;> rfl) _ _

def fieldsCcitt (col : List Node) : List (Nat × Nat) :=
  match col with
  | [] => []
  | n0 :: _ =>
    let enclen := (n0.enc.nbits / 8).toNat
    let s0 := valueString n0
    let differs := col.any fun n => strDiffers s0 (valueString n) (n.enc.nbits / 8).toNat
    if !differs then padF s0 enclen ++ [(0, 6)]
    else bytesF (strPad none enclen) ++ [(enclen, 6)] ++
      col.flatMap fun n => padF (valueString n) (n.enc.nbits / 8).toNat

theorem putCcittCompressed_fields (w : W) (col : List Node) :
    putCcittCompressed w col = w.putFields (fieldsCcitt col) := by
  cases col with
  | nil => rfl
  | cons n0 rest =>
    have hfold : ∀ (l : List Node) (w : W),
        l.foldl (fun w n => w.putPadString (valueString n) (n.enc.nbits / 8).toNat) w =
          w.putFields (l.flatMap fun n => padF (valueString n) (n.enc.nbits / 8).toNat) :=
      foldl_putFields (fun n => padF (valueString n) (n.enc.nbits / 8).toNat)
        (fun w n => w.putPadString (valueString n) (n.enc.nbits / 8).toNat) (fun w n => putPadString_fields w _ _)
    unfold putCcittCompressed fieldsCcitt
    simp only
    split
    · rw [putFields_append, putPadString_fields, putFields_cons, putFields_nil]
    · rw [putFields_append, putFields_append, putstring_fields, hfold, putFields_cons, putFields_nil]

def fieldsIeee (col : List Node) : List (Nat × Nat) :=
  match col with
  | [] => []
  | n0 :: _ =>
    let nb : Nat := if n0.enc.nbits = 64 then 64 else 32
    let vals := col.map valueBits
    if vals.all (· = valueBits n0) then [(valueBits n0, nb), (0, 6)]
    else [(0, nb), (nb / 8, 6)] ++ vals.flatMap fun v => [(v, nb)]

theorem putIeeeCompressed_fields (w : W) (col : List Node) :
    putIeeeCompressed w col = w.putFields (fieldsIeee col) := by
  unfold putIeeeCompressed fieldsIeee
  cases col with
  | nil => rfl
  | cons n0 rest =>
    simp only
    split
    · simp only [putFields_cons, putFields_nil]
    · simp only [putFields_append, putFields_cons, putFields_nil, foldl_putbits (fun v => v)]

/-- the fields written for one column of compressed data -/
def fieldsColumn (col : List Node) : List (Nat × Nat) :=
  match col with
  | [] => []
  | n0 :: _ =>
    if n0.flags.skipped then []
    else
      fieldsAf col ++
      (match n0.enc.type with
       | .ccitt => fieldsCcitt col
       | .ieee => fieldsIeee col
       | .numeric | .codetable | .flagtable | .chngRef => if n0.enc.nbits ≤ 0 then [] else fieldsNum col
       | _ => [])

theorem putColumn_fields (w : W) (col : List Node) : putColumn w col = w.putFields (fieldsColumn col) := by
  unfold putColumn fieldsColumn
  cases col with
  | nil => rfl
  | cons n0 rest =>
    simp only
    split
    · rfl
    · rw [putFields_append, putAfCompressed_fields]
      cases n0.enc.type <;> dsimp only
      case ccitt => rw [putCcittCompressed_fields]
      case ieee => rw [putIeeeCompressed_fields]
      case numeric | codetable | flagtable | chngRef =>
        rw [putNumericCompressed_fields]
        split <;> simp only [putFields_nil]
      all_goals rw [putFields_nil]

/-- all the fields of Section 4, in the order `bufr_encode_message` writes them -/
def encodeFields (ss : List (List Node)) (compressed : Bool) : List (Nat × Nat) :=
  if compressed then (columns ss).flatMap fieldsColumn else ss.flatMap fun s => s.flatMap fieldsDesc

theorem encode_subsets_fields (ss : List (List Node)) (w : W) :
    ss.foldl (fun w s => s.foldl putDescValue w) w = w.putFields (encodeFields ss false) := by
  unfold encodeFields
  simp only [Bool.false_eq_true, if_false]
  exact foldl_putFields (fun s => s.flatMap fieldsDesc) (fun w s => s.foldl putDescValue w)
    (fun w s => foldl_putFields fieldsDesc putDescValue putDescValue_fields s w) ss w

theorem encode_columns_fields (ss : List (List Node)) (w : W) :
    (columns ss).foldl putColumn w = w.putFields (encodeFields ss true) := by
  unfold encodeFields
  simp only [if_true]
  exact foldl_putFields fieldsColumn putColumn putColumn_fields (columns ss) w

/-- the data part of `bufr_encode_message` is a sequence of `bufr_putbits` calls on the initial allocation -/
theorem encodeData_fields (ss : List (List Node)) (dataFlag : Nat) (xCompress : Int) :
    ∃ c : Bool, (encodeData ss dataFlag xCompress).2 =
      ((W.new 0).alloc (s4Estimate ss)).putFields (encodeFields ss c) := by
  have key : ∀ (xc : Bool) (fl : Nat) (w0 : W),
      (if !xc then (fl, ss.foldl (fun w s => s.foldl putDescValue w) w0) else (fl, (columns ss).foldl putColumn w0)).2
        = w0.putFields (encodeFields ss xc) := by
    intro xc fl w0
    cases xc
    · simpa using encode_subsets_fields ss w0
    · simpa using encode_columns_fields ss w0
  unfold encodeData
  exact ⟨_, key _ _ _⟩

theorem padF_le (s : List Nat) (e : Nat) : ∀ g ∈ padF s e, g.2 ≤ 64 := by
  intro g hg
  unfold padF bytesF at hg
  simp only [List.mem_append, List.mem_flatMap, List.mem_singleton] at hg
  rcases hg with ⟨_, _, rfl⟩ | ⟨_, _, rfl⟩ <;> exact (by decide : 8 ≤ 64)

theorem fieldsDesc_le (n : Node) (hn : n.enc.nbits ≤ 64) (ha : n.afW ≤ 64) : ∀ f ∈ fieldsDesc n, f.2 ≤ 64 := by
  intro f hf
  unfold fieldsDesc at hf
  split at hf
  · cases hf
  · rcases List.mem_append.mp hf with h | h
    · split at h
      · simp only [List.mem_singleton] at h
        subst h
        exact ha
      · cases h
    · have hw : n.enc.nbits.toNat ≤ 64 := by omega
      cases ht : n.enc.type <;> simp only [ht] at h
      case ccitt => exact padF_le _ _ f h
      case ieee =>
        simp only [List.mem_singleton] at h
        subst h
        show (if n.enc.nbits = 64 then 64 else 32) ≤ 64
        split <;> omega
      case numeric | chngRef | codetable | flagtable =>
        simp only [List.mem_singleton] at h
        subst h
        exact hw
      all_goals cases h

end Bufr
