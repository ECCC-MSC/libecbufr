import BufrModel.Sprintf
import BufrProofs.Printf
import BufrProofs.SoftFloat
import Mathlib.Tactic.Linarith
import Mathlib.Tactic.Ring
import Mathlib.Tactic.NormNum
import Mathlib.Tactic.Positivity
/-
  `sprintf` never writes more than `maxLen` says: for every format that parses and every argument
  list within the type-level bounds, the rendering exists and is at most `maxLen fmt bs` long
  (`render_length_le`).
-/
namespace Bufr.Sprintf
open Bufr.SF Bufr.Printf

theorem pad_length (d : Dir) (num : Bool) (pre body : List Nat) :
    (pad d num pre body).length = max d.width (pre.length + body.length) := by
  unfold pad
  split_ifs <;> simp only [List.length_append, List.length_replicate]
  · rw [add_tsub_eq_max, Nat.max_comm]
  · rw [Nat.add_right_comm, add_tsub_eq_max, Nat.max_comm]
  · rw [Nat.add_assoc, Nat.sub_add_eq_max]

theorem upperIf_length (b : Bool) (s : List Nat) : (upperIf b s).length = s.length := by
  unfold upperIf; split_ifs <;> simp

theorem pad_length_le (d : Dir) (num : Bool) (pre body : List Nat) (n : Nat)
    (h : pre.length + body.length ≤ n) : (pad d num pre body).length ≤ max d.width n := by
  rw [pad_length]; omega

theorem intDigits_length (p : Option Nat) (ds : List Nat) (z : Bool) (nd : Nat) (h : ds.length ≤ nd) :
    (intDigits p ds z).length ≤ intBody p nd := by
  unfold intDigits intBody
  cases p with
  | none => exact h
  | some k =>
    simp only
    split_ifs
    · simp
    · rw [zpad_length_eq]; omega

theorem signOf_length (d : Dir) (neg : Bool) : (signOf d neg).length ≤ 1 := by
  unfold signOf
  split_ifs <;> simp

theorem signOf_false_length (d : Dir) : (signOf d false).length ≤ (if d.plus ∨ d.space then 1 else 0) := by
  unfold signOf
  by_cases h1 : d.plus = true <;> by_cases h2 : d.space = true <;> simp [h1, h2]

theorem ndigFrom_spec (b f k n : Nat) (h : n < b ^ (k + f)) :
    k ≤ ndigFrom b f k n ∧ n < b ^ ndigFrom b f k n := by
  induction f generalizing k with
  | zero => exact ⟨Nat.le_refl _, h⟩
  | succ f ih =>
    unfold ndigFrom
    split_ifs with h1
    · exact ⟨Nat.le_refl _, h1⟩
    · have := ih (k + 1) (by rw [show k + 1 + f = k + (f + 1) by omega]; exact h)
      exact ⟨by omega, this.2⟩

theorem ndig_spec (b n : Nat) (hb : 2 ≤ b) : 1 ≤ ndig b n ∧ n < b ^ ndig b n :=
  ndigFrom_spec b (n + 1) 1 n
    (lt_of_lt_of_le (lt_pow_succ b n hb) (Nat.pow_le_pow_right (by omega) (by omega)))

theorem length_le_ndig (b : Nat) (hb : 2 ≤ b) (l : Nat → List Nat)
    (hl : ∀ n k, 1 ≤ k → n < b ^ k → (l n).length ≤ k) (n m : Nat) (h : n ≤ m) :
    (l n).length ≤ ndig b m :=
  hl n _ (ndig_spec b m hb).1 (lt_of_le_of_lt h (ndig_spec b m hb).2)

theorem radixNat_length (b n k : Nat) (hk : 1 ≤ k) (h : n < b ^ k) : (radixNat b n).length ≤ k := by
  unfold radixNat
  rw [List.length_reverse, radixRev_eq, List.length_map]
  exact radixRevV_length _ _ _ _ hk h

theorem hexNat_length (n k : Nat) (hk : 1 ≤ k) (h : n < 16 ^ k) : (hexNat n).length ≤ k := by
  unfold hexNat
  rw [List.length_reverse, hexRev_eq, List.length_map]
  exact radixRevV_length _ _ _ _ hk h

theorem two_pow_pred (n : Nat) (hn : 1 ≤ n) : (2:Int) ^ n = 2 * (2:Int) ^ (n - 1) := by
  rw [← pow_succ', Nat.sub_add_cancel hn]

theorem wrapS_bounds (n : Nat) (hn : 1 ≤ n) (v : Int) :
    -(2:Int) ^ (n - 1) ≤ wrapS n v ∧ wrapS n v < (2:Int) ^ (n - 1) := by
  have hP : (0:Int) < (2:Int) ^ (n - 1) := by positivity
  have h2 := two_pow_pred n hn
  have hm0 : 0 ≤ v % (2:Int) ^ n := Int.emod_nonneg _ (by positivity)
  have hm1 : v % (2:Int) ^ n < (2:Int) ^ n := Int.emod_lt_of_pos _ (by positivity)
  unfold wrapS
  simp only
  generalize v % (2:Int) ^ n = m at *
  generalize (2:Int) ^ n = T at *
  generalize (2:Int) ^ (n - 1) = P at *
  split_ifs with h <;> omega

theorem wrapS_of_range (n : Nat) (hn : 1 ≤ n) (v : Int) (h0 : -(2:Int) ^ (n - 1) ≤ v)
    (h1 : v < (2:Int) ^ (n - 1)) : wrapS n v = v := by
  have h2 := two_pow_pred n hn
  unfold wrapS
  simp only
  generalize (2:ℤ) ^ (n - 1) = P at *
  generalize (2:ℤ) ^ n = T at *
  rcases lt_or_ge v 0 with hv | hv
  · rw [← Int.add_emod_right v T, Int.emod_eq_of_lt (by omega) (by omega), if_neg (by omega)]
    omega
  · rw [Int.emod_eq_of_lt hv (by omega), if_pos h1]

theorem wrapU_lt (n : Nat) (v : Int) : wrapU n v < 2 ^ n := by
  unfold wrapU
  have hm0 : 0 ≤ v % (2:Int) ^ n := Int.emod_nonneg _ (by positivity)
  have hm1 : v % (2:Int) ^ n < (2:Int) ^ n := Int.emod_lt_of_pos _ (by positivity)
  have hc : (((2:Nat) ^ n : Nat) : Int) = (2:Int) ^ n := Nat.cast_pow 2 n
  omega

theorem wrapU_of_range (n : Nat) (v : Int) (h0 : 0 ≤ v) (h1 : v < (2:Int) ^ n) : wrapU n v = v.toNat := by
  unfold wrapU; rw [Int.emod_eq_of_lt h0 h1]

theorem natAbs_le_two_pow (x : ℤ) (k : ℕ) (h0 : -(2:ℤ) ^ k ≤ x) (h1 : x ≤ (2:ℤ) ^ k) : x.natAbs ≤ 2 ^ k := by
  have hc : (((2:ℕ) ^ k : ℕ) : ℤ) = (2:ℤ) ^ k := Nat.cast_pow 2 k
  omega

theorem sMax_bound (size bits : Nat) (signed : Bool) (v : Int) (hb1 : 1 ≤ bits) (hbs : bits ≤ size)
    (hr : inRange bits signed v = true) :
    (wrapS size v).natAbs ≤ (sMax size bits signed).1 ∧
      ((sMax size bits signed).2 = false → 0 ≤ wrapS size v) := by
  have hs1 : 1 ≤ size := hb1.trans hbs
  unfold inRange at hr
  unfold sMax
  cases signed with
  | true =>
    rw [if_pos rfl, decide_eq_true_eq] at hr
    have hmono : (2:Int) ^ (bits - 1) ≤ (2:Int) ^ (size - 1) := pow_le_pow_right₀ (by norm_num) (by omega)
    rw [if_pos ⟨rfl, hbs⟩, wrapS_of_range size hs1 v (by omega) (by omega)]
    exact ⟨natAbs_le_two_pow v _ hr.1 hr.2.le, fun h => Bool.noConfusion h⟩
  | false =>
    rw [if_neg (by decide), decide_eq_true_eq] at hr
    rw [if_neg (by simp)]
    by_cases hlt : bits < size
    · have hmono : (2:Int) ^ bits ≤ (2:Int) ^ (size - 1) := pow_le_pow_right₀ (by norm_num) (by omega)
      have hc : (((2:ℕ) ^ bits : ℕ) : ℤ) = (2:ℤ) ^ bits := Nat.cast_pow 2 bits
      rw [if_pos ⟨by simp, hlt⟩, wrapS_of_range size hs1 v (by omega) (by omega)]
      exact ⟨by omega, fun _ => hr.1⟩
    · rw [if_neg (by simp [hlt])]
      obtain ⟨h0, h1⟩ := wrapS_bounds size hs1 v
      exact ⟨natAbs_le_two_pow _ _ h0 h1.le, fun h => Bool.noConfusion h⟩

theorem uMax_bound (size bits : Nat) (signed : Bool) (v : Int) (hbs : bits ≤ size)
    (hr : inRange bits signed v = true) : wrapU size v ≤ uMax size bits signed := by
  have hlt := wrapU_lt size v
  unfold uMax
  cases signed with
  | true =>
    simp only [not_true_eq_false, false_and, if_false]
    omega
  | false =>
    unfold inRange at hr
    simp only [Bool.false_eq_true, if_false, decide_eq_true_eq] at hr
    simp only [Bool.false_eq_true, not_false_eq_true, true_and, hbs, if_true]
    have hmono : (2:Int) ^ bits ≤ (2:Int) ^ size := pow_le_pow_right₀ (by norm_num) hbs
    rw [wrapU_of_range size v hr.1 (by omega)]
    have hc3 : (((2:Nat) ^ bits : Nat) : Int) = (2:Int) ^ bits := Nat.cast_pow 2 bits
    omega

/-- `t` is the text of the finite value `q`: a `-` in front when `q < 0`, and at most `B` characters after the
sign.  Every floating conversion is bounded in this form, so that the sign can be counted once. -/
def SignedBody (t : List ℕ) (q : ℚ) (B : ℕ) : Prop :=
  t.length ≤ (if q < 0 then 1 else 0) + B ∧ (q < 0 → ∃ r, t = 45 :: r)

theorem SignedBody.mono {t : List ℕ} {q : ℚ} {B B' : ℕ} (h : SignedBody t q B) (hB : B ≤ B') :
    SignedBody t q B' :=
  ⟨le_trans h.1 (Nat.add_le_add_left hB _), h.2⟩

theorem SignedBody.sign (q : ℚ) {r : List ℕ} {B : ℕ} (h : r.length ≤ B) :
    SignedBody ((if q < 0 then [45] else []) ++ r) q B :=
  ⟨by rw [List.length_append, apply_ite List.length]; exact Nat.add_le_add_left h _,
   fun hq => ⟨r, by rw [if_pos hq]; rfl⟩⟩

theorem SignedBody.append {t : List ℕ} {q : ℚ} {B : ℕ} (h : SignedBody t q B) (s : List ℕ) :
    SignedBody (t ++ s) q (B + s.length) :=
  ⟨by rw [List.length_append, ← Nat.add_assoc]; exact Nat.add_le_add_right h.1 _,
   fun hq => by obtain ⟨r, hr⟩ := h.2 hq; exact ⟨r ++ s, by rw [hr, List.cons_append]⟩⟩

theorem SignedBody.map {t : List ℕ} {q : ℚ} {B : ℕ} (h : SignedBody t q B) (f : ℕ → ℕ) (hf : f 45 = 45) :
    SignedBody (t.map f) q B :=
  ⟨by rw [List.length_map]; exact h.1,
   fun hq => by obtain ⟨r, hr⟩ := h.2 hq; exact ⟨r.map f, by rw [hr, List.map_cons, hf]⟩⟩

/-! ### `%f` -/

theorem fmtF_body (k : ℕ) (q : ℚ) (M D : ℕ) (hD : 1 ≤ D) (hM : M < 10 ^ D) (hq : |q| ≤ (M:ℚ)) :
    SignedBody (fmtF k q) q (D + (if k = 0 then 0 else 1 + k)) := by
  unfold fmtF
  simp only
  rw [abs_eq_ite]
  generalize hm : rneNat (|q| * ((10 ^ k : ℕ) : ℚ)) = m
  have hmle : m ≤ M * 10 ^ k := by
    rw [← hm]
    apply rneNat_le
    push_cast
    exact mul_le_mul_of_nonneg_right hq (by positivity)
  have hint : (decNat (m / 10 ^ k)).length ≤ D :=
    decNat_length _ _ hD (lt_of_le_of_lt (Nat.div_le_of_le_mul (by rw [Nat.mul_comm]; exact hmle)) hM)
  have hfr : (if k = 0 then [] else 46 :: zpad k (decNat (m % 10 ^ k))).length = if k = 0 then 0 else 1 + k := by
    split_ifs with hk
    · rfl
    · rw [List.length_cons, zpad_length k _ (decNat_length _ k (by omega) (Nat.mod_lt _ (by positivity))), Nat.add_comm]
  exact ((SignedBody.sign q hint).append _).mono (Nat.add_le_add_left hfr.le _)

set_option exponentiation.threshold 1100 in
theorem maxDouble_eq : maxDouble = (((2 ^ 53 - 1) * 2 ^ 971 : ℕ) : ℚ) := by
  unfold maxDouble; rw [Nat.cast_mul]

theorem maxFloat_eq : maxFloat = (((2 ^ 24 - 1) * 2 ^ 104 : ℕ) : ℚ) := by
  unfold maxFloat; rw [Nat.cast_mul]

/-- `DBL_MAX` has 309 decimal digits, `FLT_MAX` 39 -/
theorem maxDoubleNat_lt_ten_pow : (2 ^ 53 - 1) * 2 ^ 971 < 10 ^ 309 := by decide +kernel

theorem maxFloatNat_lt_ten_pow : (2 ^ 24 - 1) * 2 ^ 104 < 10 ^ 39 := by decide +kernel

/-! ### `%e`: the decimal exponent -/

/-- `log₂ 10` lies between `100000/30103` and `100001/30103` -/
theorem log2_ten : (2:ℚ) ^ 100000 ≤ 10 ^ 30103 ∧ (10:ℚ) ^ 30103 ≤ 2 ^ 100001 := by
  have h1 : 2 ^ 100000 ≤ 10 ^ 30103 := by decide +kernel
  have h2 : 10 ^ 30103 ≤ 2 ^ 100001 := by decide +kernel
  have c1 := (Nat.cast_le (α := ℚ)).mpr h1
  have c2 := (Nat.cast_le (α := ℚ)).mpr h2
  rw [Nat.cast_pow, Nat.cast_pow, Nat.cast_ofNat, Nat.cast_ofNat] at c1 c2
  exact ⟨c1, c2⟩

/-- with `p₁/r ≤ log_c d ≤ p₂/r`, `c^x ≤ d^y` as soon as `x ≤ y·p₁/r` and `x ≤ y·p₂/r` (the first serves `y ≥ 0`,
the second `y ≤ 0`) -/
theorem zpow_le_zpow_of_log (c d : ℚ) (hc : 1 ≤ c) (hd : 0 < d) (p₁ p₂ r : ℕ) (hr : r ≠ 0)
    (hA : c ^ p₁ ≤ d ^ r) (hB : d ^ r ≤ c ^ p₂) (x y : ℤ)
    (h1 : x * r ≤ p₁ * y) (h2 : x * r ≤ p₂ * y) : c ^ x ≤ d ^ y := by
  have hc0 : 0 < c := lt_of_lt_of_le one_pos hc
  rw [← pow_le_pow_iff_left₀ (zpow_nonneg hc0.le x) (zpow_nonneg hd.le y) hr, ← zpow_natCast, ← zpow_natCast,
    ← zpow_mul, ← zpow_mul, mul_comm y]
  rcases le_total 0 y with hy | hy
  · obtain ⟨n, rfl⟩ := Int.eq_ofNat_of_zero_le hy
    calc c ^ (x * (r:ℤ)) ≤ c ^ ((p₁:ℤ) * (n:ℤ)) := zpow_le_zpow_right₀ hc h1
      _ = (c ^ p₁) ^ n := by rw [zpow_mul, zpow_natCast, zpow_natCast]
      _ ≤ (d ^ r) ^ n := pow_le_pow_left₀ (pow_nonneg hc0.le _) hA n
      _ = d ^ ((r:ℤ) * (n:ℤ)) := by rw [zpow_mul, zpow_natCast, zpow_natCast]
  · obtain ⟨n, hn⟩ := Int.eq_ofNat_of_zero_le (neg_nonneg.mpr hy)
    obtain rfl : y = -(n:ℤ) := by omega
    calc c ^ (x * (r:ℤ)) ≤ c ^ ((p₂:ℤ) * -(n:ℤ)) := zpow_le_zpow_right₀ hc h2
      _ = ((c ^ p₂) ^ n)⁻¹ := by rw [zpow_mul, zpow_neg, zpow_natCast, zpow_natCast]
      _ ≤ ((d ^ r) ^ n)⁻¹ := inv_anti₀ (pow_pos (pow_pos hd _) _) (pow_le_pow_left₀ (pow_nonneg hd.le _) hB n)
      _ = d ^ ((r:ℤ) * -(n:ℤ)) := by rw [zpow_mul, zpow_neg, zpow_natCast, zpow_natCast]

/-- the first guess `e0 = ⌊b·0.30103⌋` of `ilog10` is not too small: `2^(b+1) ≤ 10^(e0+2)` -/
theorem ilog10_guess_spec (b : ℤ) (h0 : -1074 ≤ b) (h1 : b ≤ 1023) :
    (2:ℚ) ^ (b + 1) ≤ (10:ℚ) ^ (b * 30103 / 100000 + 2) :=
  zpow_le_zpow_of_log 2 10 (by norm_num) (by norm_num) 100000 100001 30103 (by norm_num) log2_ten.1 log2_ten.2
    _ _ (by omega) (by omega)

theorem ilog10Down_spec (f : ℕ) (a : ℚ) (e : ℤ) :
    e - f ≤ ilog10Down f a e ∧ ilog10Down f a e ≤ e ∧
      (ilog10Down f a e = e ∨ a < (10:ℚ) ^ (ilog10Down f a e + 1)) := by
  induction f generalizing e with
  | zero => exact ⟨by unfold ilog10Down; omega, le_refl _, Or.inl rfl⟩
  | succ f ih =>
    unfold ilog10Down
    split_ifs with h1
    · obtain ⟨h2, h3, h4⟩ := ih (e - 1)
      refine ⟨by push_cast; omega, by omega, Or.inr ?_⟩
      rcases h4 with h4 | h4
      · rw [h4, sub_add_cancel, ← pow10r_eq]; exact h1
      · exact h4
    · exact ⟨by push_cast; omega, le_refl _, Or.inl rfl⟩

theorem ilog10Up_spec (f : ℕ) (a : ℚ) (e : ℤ) (h : a < (10:ℚ) ^ (e + f + 1)) :
    e ≤ ilog10Up f a e ∧ ilog10Up f a e ≤ e + f ∧ a < (10:ℚ) ^ (ilog10Up f a e + 1) := by
  induction f generalizing e with
  | zero =>
    unfold ilog10Up
    simp only [Nat.cast_zero, add_zero] at h
    exact ⟨le_refl _, by simp, h⟩
  | succ f ih =>
    unfold ilog10Up
    split_ifs with h1
    · have := ih (e + 1) (by rwa [show e + 1 + (f:ℤ) + 1 = e + ((f + 1 : ℕ) : ℤ) + 1 by push_cast; ring])
      refine ⟨by omega, by push_cast; omega, this.2.2⟩
    · rw [pow10r_eq, not_le] at h1
      exact ⟨le_refl _, by push_cast; omega, h1⟩

theorem ilog10_spec (a : ℚ) (hlo : (2:ℚ) ^ (-1074 : ℤ) ≤ a) (hhi : a < (2:ℚ) ^ (1024 : ℤ)) :
    a < (10:ℚ) ^ (ilog10 a + 1) ∧ -330 ≤ ilog10 a ∧ ilog10 a ≤ 320 := by
  have ha0 : 0 < a := lt_of_lt_of_le (zpow_pos (by norm_num) _) hlo
  obtain ⟨hb1, hb2⟩ := ilog2_spec a ha0.ne'
  rw [abs_of_pos ha0] at hb1 hb2
  have hdef : ilog10 a = ilog10Up 4 a (ilog10Down 4 a (ilog2 a * 30103 / 100000)) := rfl
  generalize ilog2 a = b at *
  have hbhi : b < 1024 := zpow2_lt_iff.mp (lt_of_le_of_lt hb1 hhi)
  have hblo : -1074 < b + 1 := zpow2_lt_iff.mp (lt_of_le_of_lt hlo hb2)
  have hg := ilog10_guess_spec b (by omega) (by omega)
  have he0 : -324 ≤ b * 30103 / 100000 ∧ b * 30103 / 100000 ≤ 308 := by omega
  generalize b * 30103 / 100000 = e0 at *
  obtain ⟨hd1, hd2, hd3⟩ := ilog10Down_spec 4 a e0
  generalize ilog10Down 4 a e0 = e1 at *
  have hlt : a < (10:ℚ) ^ (e1 + ((4:ℕ):ℤ) + 1) := by
    rcases hd3 with rfl | hd3
    · exact lt_of_lt_of_le hb2 (le_trans hg (zpow_le_zpow_right₀ (by norm_num) (by push_cast; omega)))
    · exact lt_of_lt_of_le hd3 (zpow_le_zpow_right₀ (by norm_num) (by push_cast; omega))
  obtain ⟨hu1, hu2, hu3⟩ := ilog10Up_spec 4 a e1 hlt
  rw [hdef]
  push_cast at hd1 hu2
  exact ⟨hu3, by omega, by omega⟩

/-! ### `%e`: mantissa and text -/

theorem fmtE_eq (k : ℕ) (q : ℚ) (m : ℕ) (e : ℤ) (h : expPair k |q| = (m, e)) : fmtE k q =
    (if q < 0 then [45] else []) ++
      ((zpad (k + 1) (decNat m)).take 1 ++ (if k = 0 then [] else 46 :: (zpad (k + 1) (decNat m)).drop 1)) ++
      [69] ++ (if e < 0 then [45] else [43]) ++ zpad 2 (decNat e.natAbs) := by
  unfold expPair at h
  unfold fmtE
  simp only [abs_eq_ite, h]

/-- a finite `double` that is not zero, by magnitude -/
def DblRange (a : ℚ) : Prop := (2:ℚ) ^ (-1074 : ℤ) ≤ a ∧ a < (2:ℚ) ^ (1024 : ℤ)

theorem expPair_spec (k : ℕ) (a : ℚ) (h : a = 0 ∨ DblRange a) :
    (expPair k a).1 < 10 ^ (k + 1) ∧ (expPair k a).2.natAbs < 1000 ∧ a < (10:ℚ) ^ ((expPair k a).2 + 1) := by
  unfold expPair
  by_cases ha : a = 0
  · rw [if_pos ha, ha]
    exact ⟨by positivity, by decide, by norm_num⟩
  · rw [if_neg ha]
    obtain ⟨hlo, hhi⟩ := h.resolve_left ha
    obtain ⟨hlt, he1, he2⟩ := ilog10_spec a hlo hhi
    simp only
    generalize ilog10 a = e at *
    have hm : rneNat (a / pow10r (e - (k:ℤ))) ≤ 10 ^ k * 10 := by
      apply rneNat_le
      rw [pow10r_eq, div_le_iff₀ (zpow_pos (by norm_num) _), ← pow_succ, Nat.cast_pow, Nat.cast_ofNat, ← zpow_natCast,
        ← zpow_add₀ (by norm_num : (10:ℚ) ≠ 0), show ((k + 1 : ℕ) : ℤ) + (e - (k:ℤ)) = e + 1 by push_cast; ring]
      exact hlt.le
    generalize rneNat (a / pow10r (e - (k:ℤ))) = m at *
    have hP0 : 0 < 10 ^ k := Nat.pow_pos (by norm_num)
    rw [pow_succ]
    split_ifs with hge
    · have h1 : m / 10 < 10 ^ k * 10 := Nat.div_lt_of_lt_mul (by omega)
      have h2 : (e + 1).natAbs < 1000 := by omega
      have h3 : a < (10:ℚ) ^ (e + 1 + 1) := lt_of_lt_of_le hlt (zpow_le_zpow_right₀ (by norm_num) (by omega))
      exact ⟨h1, h2, h3⟩
    · exact ⟨not_le.mp hge, by show e.natAbs < 1000; omega, hlt⟩

theorem fmtE_body (k : ℕ) (q : ℚ) (h : q = 0 ∨ DblRange |q|) :
    SignedBody (fmtE k q) q ((1 + if k = 0 then 0 else 1 + k) + 5) := by
  rw [fmtE_eq k q (expPair k |q|).1 (expPair k |q|).2 rfl]
  obtain ⟨hm, he, _⟩ := expPair_spec k |q| (h.imp_left (fun h => by rw [h, abs_zero]))
  generalize (expPair k |q|).1 = m at *
  generalize (expPair k |q|).2 = e at *
  have hds : (zpad (k + 1) (decNat m)).length = k + 1 :=
    zpad_length _ _ (decNat_length m (k + 1) (by omega) hm)
  have hex : (zpad 2 (decNat e.natAbs)).length ≤ 3 := by
    rw [zpad_length_eq]
    have := decNat_length e.natAbs 3 (by norm_num) (by norm_num; exact he)
    omega
  have hsg : (if e < 0 then [45] else ([43] : List ℕ)).length = 1 := (apply_ite ..).trans (ite_self 1)
  refine ((((SignedBody.sign q (B := 1 + if k = 0 then 0 else 1 + k) ?_).append [69]).append _).append _).mono ?_
  · rw [List.length_append, List.length_take]
    refine Nat.add_le_add (Nat.min_le_left 1 _) ?_
    split_ifs
    · exact Nat.le_refl 0
    · rw [List.length_cons, List.length_drop, hds]
      omega
  · rw [hsg, List.length_singleton]
    omega

theorem maxDoubleNat_lt_two_pow : (2 ^ 53 - 1) * 2 ^ 971 < 2 ^ 1024 := by decide +kernel

theorem maxFloatNat_lt_two_pow : (2 ^ 24 - 1) * 2 ^ 104 < 2 ^ 1024 := by decide +kernel

theorem fpWithin_spec (lo : ℤ) (M : ℚ) (q : ℚ) (h : fpWithin lo M (.fin q) = true) :
    |q| ≤ M ∧ (q = 0 ∨ (2:ℚ) ^ lo ≤ |q|) := by
  unfold fpWithin at h
  simp only [decide_eq_true_eq] at h
  obtain ⟨h1, h2, h3⟩ := h
  refine ⟨abs_le.mpr ⟨h1, h2⟩, ?_⟩
  rcases h3 with h3 | h3 | h3
  · left; exact h3
  · right; rw [pow2_eq] at h3; exact le_trans h3 (le_abs_self q)
  · right; rw [pow2_eq] at h3; exact le_trans (by linarith) (neg_le_abs q)

theorem fpWithin_range (lo : ℤ) (hlo : -1074 ≤ lo) (M : ℚ) (N : ℕ) (hM : M = (N : ℚ)) (hN : N < 2 ^ 1024) (q : ℚ)
    (h : fpWithin lo M (.fin q) = true) : |q| ≤ (N : ℚ) ∧ (q = 0 ∨ DblRange |q|) := by
  obtain ⟨h1, h2⟩ := fpWithin_spec _ _ q h
  rw [hM] at h1
  refine ⟨h1, h2.imp_right fun h2 => ⟨le_trans (zpow_le_zpow_right₀ (by norm_num) hlo) h2, lt_of_le_of_lt h1 ?_⟩⟩
  exact_mod_cast hN

theorem dbl_spec (q : ℚ) (h : fpWithin (-1074) maxDouble (.fin q) = true) :
    |q| ≤ (((2 ^ 53 - 1) * 2 ^ 971 : ℕ) : ℚ) ∧ (q = 0 ∨ DblRange |q|) :=
  fpWithin_range _ le_rfl _ _ maxDouble_eq maxDoubleNat_lt_two_pow q h

theorem flt_spec (q : ℚ) (h : fpWithin (-149) maxFloat (.fin q) = true) :
    |q| ≤ (((2 ^ 24 - 1) * 2 ^ 104 : ℕ) : ℚ) ∧ (q = 0 ∨ DblRange |q|) :=
  fpWithin_range _ (by norm_num) _ _ maxFloat_eq maxFloatNat_lt_two_pow q h

theorem fpText_length (d : Dir) (x : FP) (fin : ℚ → List ℕ) (B : ℕ) (hB : 3 ≤ B)
    (hfin : ∀ q, x = .fin q → SignedBody (fin q) q B) :
    (fpText d x fin).1.length + (fpText d x fin).2.1.length ≤ 1 + B := by
  cases x with
  | fin q =>
    obtain ⟨hl, hn⟩ := hfin q rfl
    unfold fpText
    simp only
    split
    · next r heq =>
      rw [heq] at hl
      simp only [List.length_cons, List.length_nil] at hl ⊢
      split_ifs at hl <;> omega
    · next hne =>
      have hq : ¬ q < 0 := fun hq => by obtain ⟨r, hr⟩ := hn hq; exact hne r hr
      rw [if_neg hq] at hl
      have := signOf_length d false
      show (signOf d false).length + (fin q).length ≤ 1 + B
      omega
  | nan => exact Nat.add_le_add (signOf_length d false) hB
  | inf neg => exact Nat.add_le_add (signOf_length d neg) hB

theorem fp_dir (d : Dir) (x : FP) (fin : ℚ → List ℕ) (B n : ℕ) (hB : 3 ≤ B)
    (hfin : ∀ q, x = .fin q → SignedBody (fin q) q B) (hn : max d.width (1 + B) ≤ n) :
    ∃ out, some (pad d (fpText d x fin).2.2 (fpText d x fin).1 (fpText d x fin).2.1) = some out ∧
      out.length ≤ n :=
  ⟨_, rfl, le_trans (pad_length_le _ _ _ _ _ (fpText_length d x fin B hB hfin)) hn⟩

/-! ### `%g` -/

theorem dropWhile_append_singleton (p : ℕ → Bool) (a : ℕ) (hp : p a = false) (l : List ℕ) :
    ∃ l', (l ++ [a]).dropWhile p = l' ++ [a] := by
  rw [List.dropWhile_append]
  split
  · exact ⟨[], by simp [hp]⟩
  · exact ⟨_, rfl⟩

theorem trimZeros_length_le (s : List ℕ) : (trimZeros s).length ≤ s.length := by
  unfold trimZeros
  simp only
  have h1 : ((s.reverse.dropWhile (· = 48)).reverse).length ≤ s.length := by
    rw [List.length_reverse, ← List.length_reverse (as := s)]
    exact (List.dropWhile_sublist _).length_le
  split_ifs
  · rw [List.length_dropLast]; omega
  · exact h1

theorem trimZeros_head (r : List ℕ) : ∃ r', trimZeros (45 :: r) = 45 :: r' := by
  unfold trimZeros
  simp only
  obtain ⟨l', hl'⟩ := dropWhile_append_singleton (fun x => decide (x = 48)) 45 (by decide) r.reverse
  have ht : ((45 :: r).reverse.dropWhile (· = 48)).reverse = 45 :: l'.reverse := by
    rw [List.reverse_cons, hl', List.reverse_append]; rfl
  rw [ht]
  split_ifs with hlast
  · cases hr : l'.reverse with
    | nil => rw [hr] at hlast; simp at hlast
    | cons b t => exact ⟨(b :: t).dropLast, by simp [List.dropLast]⟩
  · exact ⟨_, rfl⟩

theorem stripFrac_length_le (s : List ℕ) : (stripFrac s).length ≤ s.length := by
  unfold stripFrac
  split_ifs
  · exact trimZeros_length_le s
  · exact le_refl _

theorem stripFrac_head (r : List ℕ) : ∃ r', stripFrac (45 :: r) = 45 :: r' := by
  unfold stripFrac
  split_ifs
  · exact trimZeros_head r
  · exact ⟨r, rfl⟩

theorem SignedBody.stripFrac {t : List ℕ} {q : ℚ} {B : ℕ} (h : SignedBody t q B) :
    SignedBody (stripFrac t) q B :=
  ⟨le_trans (stripFrac_length_le t) h.1, fun hq => by obtain ⟨r, rfl⟩ := h.2 hq; exact stripFrac_head r⟩

theorem fmtG_body (P : ℕ) (alt : Bool) (q : ℚ) (h : q = 0 ∨ DblRange |q|) :
    SignedBody (fmtG P alt q) q ((if P = 0 then 1 else P) + 6) := by
  unfold fmtG
  simp only
  rw [abs_eq_ite]
  have hp1 : 1 ≤ (if P = 0 then 1 else P) := by split_ifs <;> omega
  generalize (if P = 0 then 1 else P) = p at hp1 ⊢
  obtain ⟨_, _, hlt⟩ := expPair_spec (p - 1) |q| (h.imp_left (fun h => by rw [h, abs_zero]))
  generalize (expPair (p - 1) |q|).2 = x at hlt ⊢
  by_cases hx : -4 ≤ x ∧ x < (p:ℤ)
  · -- style f: at most `x + 1` integer digits (one when `x < 0`) and `p - 1 - x` decimals
    rw [if_pos hx]
    have hq : |q| ≤ ((10 ^ (x + 1).toNat : ℕ) : ℚ) := by
      rw [Nat.cast_pow, Nat.cast_ofNat, ← zpow_natCast]
      exact hlt.le.trans (zpow_le_zpow_right₀ (by norm_num) (Int.self_le_toNat _))
    have hF : SignedBody (fmtF ((p:ℤ) - 1 - x).toNat q) q (p + 6) :=
      (fmtF_body _ q _ ((x + 1).toNat + 1) (Nat.le_add_left 1 _)
        (Nat.pow_lt_pow_right (by norm_num) (Nat.lt_succ_self _)) hq).mono (by split_ifs <;> omega)
    split_ifs
    · exact hF
    · exact hF.stripFrac
  · -- style e
    rw [if_neg hx]
    have hE := ((fmtE_body (p - 1) q h).map (fun c => if c = 69 then 101 else c) rfl).mono
      (show (1 + if p - 1 = 0 then 0 else 1 + (p - 1)) + 5 ≤ p + 6 by split_ifs <;> omega)
    generalize (fmtE (p - 1) q).map (fun c => if c = 69 then 101 else c) = t at hE ⊢
    split_ifs
    · exact hE
    · -- only the mantissa, up to the `e`, is stripped
      constructor
      · have hsplit := congrArg List.length (List.takeWhile_append_dropWhile (p := (· ≠ 101)) (l := t))
        rw [List.length_append] at hsplit ⊢
        have := stripFrac_length_le (t.takeWhile (· ≠ 101))
        have := hE.1
        omega
      · intro hq
        obtain ⟨r, rfl⟩ := hE.2 hq
        have htw : (45 :: r).takeWhile (· ≠ 101) = 45 :: r.takeWhile (· ≠ 101) := by
          rw [List.takeWhile_cons]; simp
        rw [htw]
        obtain ⟨r', hr'⟩ := stripFrac_head (r.takeWhile (· ≠ 101))
        rw [hr']
        exact ⟨_, List.cons_append⟩

theorem int_dir (d : Dir) (num : Bool) (pre ds : List ℕ) (z : Bool) (np nd n : ℕ)
    (hpre : pre.length ≤ np) (hds : ds.length ≤ nd) (hn : max d.width (np + intBody d.prec nd) ≤ n) :
    ∃ out, some (pad d num pre (intDigits d.prec ds z)) = some out ∧ out.length ≤ n :=
  ⟨_, rfl, le_trans (pad_length_le _ _ _ _ _ (Nat.add_le_add hpre (intDigits_length _ _ _ _ hds))) hn⟩

theorem fmtF_hash_body (k : ℕ) (hash : Bool) (q : ℚ) (M D : ℕ) (hD : 1 ≤ D) (hM : M < 10 ^ D)
    (hq : |q| ≤ (M:ℚ)) :
    SignedBody (fmtF k q ++ if k = 0 ∧ hash = true then [46] else []) q
      (D + if k = 0 then (if hash = true then 1 else 0) else 1 + k) :=
  ((fmtF_body k q M D hD hM hq).append _).mono (by by_cases hk : k = 0 <;> cases hash <;> simp [hk])

theorem fp_arg_range (b : ArgB) (x : FP) (hok : argOK b (.dbl x) = true) (q : ℚ) (hx : x = .fin q) :
    q = 0 ∨ DblRange |q| := by
  subst hx
  cases b with
  | dbl => exact (dbl_spec q hok).2
  | flt => exact (flt_spec q hok).2
  | _ => exact absurd hok Bool.false_ne_true

/-- the integer conversions `%d %u %x %o %c` -/
theorem renderDir_int (d : Dir) (bits : ℕ) (s : Bool) (v : ℤ) (n : ℕ)
    (hm : maxLenDir d (.int bits s) = some n) (hok : argOK (.int bits s) (.int v) = true) :
    ∃ out, renderDir d (.int v) = some out ∧ out.length ≤ n := by
  simp only [argOK, Bool.and_eq_true, decide_eq_true_eq] at hok
  unfold maxLenDir at hm
  unfold renderDir
  cases hc : d.conv <;> simp only [hc, reduceCtorEq] at hm <;> simp only []
  case d =>
    obtain ⟨⟨_, hbs, _⟩, ⟨⟩⟩ := Option.ite_none_right_eq_some.mp hm
    obtain ⟨hw1, hw2⟩ := sMax_bound d.size bits s v hok.1 hbs hok.2
    refine int_dir d (num := _) (z := _)
      (np := if (sMax d.size bits s).2 = true then 1 else if d.plus = true ∨ d.space = true then 1 else 0)
      (hpre := ?_) (hds := length_le_ndig 10 (by norm_num) decNat decNat_length _ _ hw1) (hn := Nat.le_refl _)
    by_cases h2 : (sMax d.size bits s).2 = true
    · rw [if_pos h2]; exact signOf_length _ _
    · rw [if_neg h2, decide_eq_false (by have := hw2 (by simpa using h2); omega)]
      exact signOf_false_length d
  case u =>
    obtain ⟨⟨_, hbs, _⟩, ⟨⟩⟩ := Option.ite_none_right_eq_some.mp hm
    exact int_dir d (num := _) (pre := []) (z := _) (np := 0) (hpre := Nat.le_refl 0)
      (hds := length_le_ndig 10 (by norm_num) decNat decNat_length _ _ (uMax_bound d.size bits s v hbs hok.2))
      (hn := by rw [Nat.zero_add])
  case x =>
    obtain ⟨⟨_, hbs, _⟩, ⟨⟩⟩ := Option.ite_none_right_eq_some.mp hm
    exact int_dir d (num := _) (z := _) (np := if d.hash = true then 2 else 0)
      (hpre := by by_cases h1 : d.hash = true <;> by_cases h2 : wrapU d.size v = 0 <;> simp [h1, h2])
      (hds := length_le_ndig 16 (by norm_num) hexNat hexNat_length _ _ (uMax_bound d.size bits s v hbs hok.2))
      (hn := Nat.le_refl _)
  case o =>
    obtain ⟨⟨_, hbs, _, hh⟩, ⟨⟩⟩ := Option.ite_none_right_eq_some.mp hm
    rw [if_neg hh]
    exact int_dir d (num := _) (pre := []) (z := _) (np := 0) (hpre := Nat.le_refl 0)
      (hds := length_le_ndig 8 (by norm_num) (radixNat 8) (radixNat_length 8) _ _
        (uMax_bound d.size bits s v hbs hok.2))
      (hn := by rw [Nat.zero_add])
  case c =>
    obtain ⟨_, ⟨⟩⟩ := Option.ite_none_right_eq_some.mp hm
    exact ⟨_, rfl, pad_length_le _ _ _ _ _ (Nat.le_refl 1)⟩

/-- the floating conversions `%f %e %E %g`, of a `double` or a promoted `float` -/
theorem renderDir_fp (d : Dir) (b : ArgB) (x : FP) (n : ℕ)
    (hm : maxLenDir d b = some n) (hok : argOK b (.dbl x) = true) :
    ∃ out, renderDir d (.dbl x) = some out ∧ out.length ≤ n := by
  have hr := fp_arg_range b x hok
  unfold maxLenDir at hm
  unfold renderDir
  cases b
  case int | str | ptr | unk => exact absurd hok Bool.false_ne_true
  all_goals cases hc : d.conv <;> simp only [hc, reduceCtorEq] at hm <;> simp only []
  case dbl.f =>
    obtain rfl := Option.some.inj hm
    exact fp_dir d x _ (309 + if d.prec.getD 6 = 0 then (if d.hash = true then 1 else 0) else 1 + d.prec.getD 6) _
      (by omega) (fun q hq => fmtF_hash_body _ _ q _ 309 (by norm_num) maxDoubleNat_lt_ten_pow (dbl_spec q (hq ▸ hok)).1)
      (by omega)
  case flt.f =>
    obtain rfl := Option.some.inj hm
    exact fp_dir d x _ (39 + if d.prec.getD 6 = 0 then (if d.hash = true then 1 else 0) else 1 + d.prec.getD 6) _
      (by omega) (fun q hq => fmtF_hash_body _ _ q _ 39 (by norm_num) maxFloatNat_lt_ten_pow (flt_spec q (hq ▸ hok)).1)
      (by omega)
  case dbl.e | flt.e =>
    obtain ⟨hh, ⟨⟩⟩ := Option.ite_none_left_eq_some.mp hm
    rw [if_neg hh]
    exact fp_dir d x _ ((1 + if d.prec.getD 6 = 0 then 0 else 1 + d.prec.getD 6) + 5) _ (by omega)
      (fun q hq => (fmtE_body _ q (hr q hq)).map _ rfl) (by omega)
  case dbl.E | flt.E =>
    -- upper-casing `inf`/`nan` does not change the length
    obtain ⟨hh, ⟨⟩⟩ := Option.ite_none_left_eq_some.mp hm
    rw [if_neg hh]
    have hl := fpText_length d x (fmtE (d.prec.getD 6)) ((1 + if d.prec.getD 6 = 0 then 0 else 1 + d.prec.getD 6) + 5)
      (by omega) (fun q hq => fmtE_body _ q (hr q hq))
    exact ⟨_, rfl, by rw [pad_length, upperIf_length]; exact (max_le_max_left _ hl).trans (by omega)⟩
  case dbl.g | flt.g =>
    obtain rfl := Option.some.inj hm
    exact fp_dir d x _ ((if d.prec.getD 6 = 0 then 1 else d.prec.getD 6) + 6) _ (by omega)
      (fun q hq => fmtG_body _ _ q (hr q hq)) (by omega)

theorem renderDir_str (d : Dir) (m : ℕ) (s : List ℕ) (n : ℕ)
    (hm : maxLenDir d (.str m) = some n) (hok : s.length ≤ m) :
    ∃ out, renderDir d (.str s) = some out ∧ out.length ≤ n := by
  unfold maxLenDir at hm
  unfold renderDir
  cases hc : d.conv <;> simp only [hc, reduceCtorEq] at hm
  simp only []
  obtain rfl := Option.some.inj hm
  refine ⟨_, rfl, pad_length_le _ _ _ _ _ ?_⟩
  cases d.prec with
  | none => simpa using hok
  | some k => simp only [List.length_nil, List.length_take, zero_add]; omega

theorem renderDir_ptr (d : Dir) (p n : ℕ) (hm : maxLenDir d .ptr = some n) (hok : p < 2 ^ 64) :
    ∃ out, renderDir d (.ptr p) = some out ∧ out.length ≤ n := by
  unfold maxLenDir at hm
  unfold renderDir
  cases hc : d.conv <;> simp only [hc, reduceCtorEq] at hm
  simp only []
  obtain ⟨hh, ⟨⟩⟩ := Option.ite_none_left_eq_some.mp hm
  rw [if_neg hh]
  refine ⟨_, rfl, pad_length_le _ _ _ _ _ ?_⟩
  split_ifs
  · simp
  · have := hexNat_length p 16 (by norm_num) (by norm_num at hok ⊢; exact hok)
    simp only [List.length_nil, List.length_cons, zero_add]; omega

theorem renderDir_length (d : Dir) (b : ArgB) (a : Arg) (n : Nat)
    (hm : maxLenDir d b = some n) (hok : argOK b a = true) :
    ∃ out, renderDir d a = some out ∧ out.length ≤ n := by
  cases a with
  | int v =>
    cases b with
    | int bits s => exact renderDir_int d bits s v n hm hok
    | _ => exact absurd hok Bool.false_ne_true
  | dbl x => exact renderDir_fp d b x n hm hok
  | str s =>
    cases b with
    | str m => exact renderDir_str d m s n hm (of_decide_eq_true hok)
    | _ => exact absurd hok Bool.false_ne_true
  | ptr p =>
    cases b with
    | ptr => exact renderDir_ptr d p n hm (of_decide_eq_true hok)
    | _ => exact absurd hok Bool.false_ne_true

theorem map_cons_length (o : Option ℕ) (m : ℕ) (ro : Option (List ℕ)) (c : ℕ)
    (hm : o.map (· + 1) = some m)
    (ih : ∀ y, o = some y → ∃ out, ro = some out ∧ out.length ≤ y) :
    ∃ out, ro.map (c :: ·) = some out ∧ out.length ≤ m := by
  cases o with
  | none => simp at hm
  | some y =>
    simp only [Option.map_some, Option.some.injEq] at hm
    subst hm
    obtain ⟨out, ho, hl⟩ := ih y rfl
    refine ⟨c :: out, by rw [ho]; rfl, by simp only [List.length_cons]; omega⟩

theorem renderPieces_length (ps : List Piece) (bs : List ArgB) (as : List Arg) (m : ℕ)
    (hm : maxLenPieces ps bs = some m) (hok : argsOK bs as = true) :
    ∃ out, renderPieces ps as = some out ∧ out.length ≤ m := by
  induction ps generalizing bs as m with
  | nil =>
    simp only [maxLenPieces, Option.some.injEq] at hm
    exact ⟨[], by simp only [renderPieces], by simp⟩
  | cons p r ih =>
    cases p with
    | lit c =>
      simp only [maxLenPieces] at hm
      simp only [renderPieces]
      exact map_cons_length _ m _ c hm (fun y hy => ih bs as y hy hok)
    | dir d =>
      simp only [maxLenPieces] at hm
      simp only [renderPieces]
      by_cases hp : d.conv = .pct
      · rw [if_pos hp] at hm ⊢
        exact map_cons_length _ m _ 37 hm (fun y hy => ih bs as y hy hok)
      · rw [if_neg hp] at hm ⊢
        match bs, as, hm, hok with
        | [], _, hm, _ => simp at hm
        | _ :: _, [], _, hok => simp [argsOK] at hok
        | b :: bs', a :: as', hm, hok =>
          simp only [argsOK, Bool.and_eq_true] at hok
          simp only at hm ⊢
          split at hm
          · next x y h1 h2 =>
            obtain rfl := Option.some.inj hm
            obtain ⟨o1, ho1, hl1⟩ := renderDir_length d b a x h1 hok.1
            obtain ⟨o2, ho2, hl2⟩ := ih bs' as' y h2 hok.2
            exact ⟨o1 ++ o2, by simp only [ho1, ho2], by rw [List.length_append]; omega⟩
          · exact absurd hm (Option.some_ne_none m).symm

/-- the rendering of a format with arguments within their bounds is never longer than `maxLen` says -/
theorem render_length_le (fmt : List Nat) (bs : List ArgB) (as : List Arg) (m : Nat)
    (hm : maxLen fmt bs = some m) (hok : argsOK bs as = true) :
    ∃ out, render fmt as = some out ∧ out.length ≤ m := by
  unfold maxLen at hm
  unfold render
  cases hp : parseFmt fmt with
  | none => simp [hp] at hm
  | some ps =>
    simp only [hp] at hm ⊢
    exact renderPieces_length ps bs as m hm hok

/-- a site the table calls safe by its computed bound really has room: whatever arguments within the bounds are
passed, the text after `pre` characters plus the terminating NUL fits the capacity -/
theorem siteSafe_fmt_sound (s : Site) (pre c : Nat) (hk : s.kind = .fmt (some pre)) (hc : s.cap = some c)
    (hs : siteSafe s = true) (f : List Nat) (hf : f ∈ s.fmts) (as : List Arg) (hok : argsOK s.args as = true) :
    ∃ out, render f as = some out ∧ pre + out.length + 1 ≤ c := by
  unfold siteSafe at hs
  simp only [hk, hc, Bool.and_eq_true, List.all_eq_true] at hs
  have hfm := hs.2 f hf
  cases hml : maxLen f s.args with
  | none => simp [hml] at hfm
  | some m =>
    simp only [hml, decide_eq_true_eq] at hfm
    obtain ⟨out, ho, hl⟩ := render_length_le f s.args as m hml hok
    exact ⟨out, ho, by omega⟩

end Bufr.Sprintf
