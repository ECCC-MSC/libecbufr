import BufrModel.TemplateText
import BufrProofs.TemplateDigits
import BufrProofs.TemplateReal
/-
  The text form of a template (C18): each line `bufr_save_template` writes is split off, tokenised and
  read back by `bufr_load_template` to the record it was written from.
-/
namespace Bufr
namespace TT

/-! ### `%d` read back by `atoi` / `atol` -/

theorem strtolC_of_sign (s : List Nat) (neg : Bool) (n : Nat) (z : Int)
    (hs : takeSign (s.dropWhile isSpace) = (neg, natDigits n)) (hz : z = if neg then -(n : Int) else n)
    (h : fitsI64 z = true) : strtolC s = z := by
  simp only [fitsI64, decide_eq_true_eq] at h
  have hv : digitsVal (natDigits n) 0 = n := by simpa using digitsVal_natDigits n [] (by simp)
  unfold strtolC
  rw [hs]
  simp only [hv, ← hz]
  rw [if_neg (by omega), if_neg (by omega)]

theorem strtolC_printInt (z : Int) (h : fitsI64 z = true) : strtolC (printInt z) = z := by
  unfold printInt
  split
  · exact strtolC_of_sign _ true z.natAbs z (sign_of_minus _) (by rw [if_pos rfl]; omega) h
  · obtain ⟨c, r, hcr, hc⟩ := natDigits_head z.toNat
    exact strtolC_of_sign _ false z.toNat z (by rw [hcr]; exact sign_of_digit c r hc)
      (by rw [if_neg Bool.false_ne_true]; omega) h

theorem wrapI32_fits (z : Int) (h : fitsI32 z = true) : SF.wrapI32 z = z := by
  simp only [fitsI32, decide_eq_true_eq] at h
  exact SF.wrapI32_of_range z h.1 h.2

theorem fitsI32_fitsI64 (z : Int) (h : fitsI32 z = true) : fitsI64 z = true := by
  simp only [fitsI32, fitsI64, decide_eq_true_eq] at *; omega

theorem atoiC_printInt (z : Int) (h : fitsI32 z = true) : atoiC (printInt z) = z := by
  unfold atoiC
  rw [strtolC_printInt z (fitsI32_fitsI64 z h), wrapI32_fits z h]

theorem atolC_printInt (z : Int) (h : fitsI64 z = true) : atolC (printInt z) = z := strtolC_printInt z h

theorem atoiC_natDigits (n : Nat) (h : n < 2 ^ 31) : atoiC (natDigits n) = (n : Int) := by
  have := atoiC_printInt (n : Int) (by simp [fitsI32]; omega)
  rwa [show printInt (n : Int) = natDigits n by unfold printInt; rw [if_neg (by omega)]; rfl] at this

theorem splitLines_cur (l cur rest : List Nat) (hl : ∀ c ∈ l, c ≠ 10) :
    splitLines (l ++ 10 :: rest) cur = (cur.reverse ++ l ++ [10]) :: splitLines rest [] := by
  induction l generalizing cur with
  | nil => simp [splitLines]
  | cons c l ih =>
    have hc : c ≠ 10 := hl c (by simp)
    simp only [List.cons_append, splitLines, hc, if_false]
    rw [ih (c :: cur) (fun x hx => hl x (by simp [hx]))]
    simp

theorem splitLines_line (l rest : List Nat) (hl : ∀ c ∈ l, c ≠ 10) :
    splitLines (line l ++ rest) [] = line l :: splitLines rest [] := by
  have := splitLines_cur l [] rest hl
  simpa [line] using this

theorem cstr_of_no_nul (l : List Nat) (h : ∀ c ∈ l, c ≠ 0) : cstr l = l :=
  (span_all (· ≠ 0) l (fun c hc => by simp [h c hc])).1

/-- `strtok_r` on `delimiters* token delimiter rest` -/
theorem nextTok_mid (isDelim : Nat → Bool) (pre tok : List Nat) (d : Nat) (rest : List Nat)
    (hpre : ∀ c ∈ pre, isDelim c = true) (htok : ∀ c ∈ tok, isDelim c = false) (hne : tok ≠ [])
    (hd : isDelim d = true) :
    nextTok isDelim (pre ++ tok ++ d :: rest) = some (tok, d :: rest) := by
  unfold nextTok
  rw [List.append_assoc, List.dropWhile_append_of_pos hpre]
  obtain ⟨t, ts, rfl⟩ := List.exists_cons_of_ne_nil hne
  rw [List.cons_append, List.dropWhile_cons_of_neg (by simp [htok t]), ← List.cons_append]
  obtain ⟨h1, h2⟩ := span_stop (fun c => !isDelim c) (t :: ts) (d :: rest) (fun c hc => by simp [htok c hc])
    (fun c hc => by cases hc; simp [hd])
  simp only [h1, h2]
  simp

theorem nextTok_none (isDelim : Nat → Bool) (l : List Nat) (h : ∀ c ∈ l, isDelim c = true) :
    nextTok isDelim l = none := by
  unfold nextTok
  rw [(span_all isDelim l h).2]; rfl

theorem closeQuote_savable (bs : List Nat) (tail : List Nat) (hbs : strSavable bs = true) (ht : endOrDelim tail = true) :
    closeQuote (bs ++ 34 :: tail) = some (bs ++ [34], tail) := by
  induction bs with
  | nil => simp [closeQuote, ht]
  | cons c cs ih =>
    unfold strSavable at hbs
    simp only [Bool.and_eq_true, Bool.not_eq_true'] at hbs
    obtain ⟨⟨⟨_, _⟩, hq⟩, hcs⟩ := hbs
    simp only [List.cons_append, closeQuote]
    have hcond : (decide (c = 34) && endOrDelim (cs ++ 34 :: tail)) = false := by
      by_cases hc : c = 34
      · subst hc
        cases cs with
        | nil => simp [endOrDelim, delimVal]
        | cons e es => simpa [endOrDelim, nextDelim] using hq
      · simp [hc]
    rw [hcond]
    simp only [Bool.false_eq_true, if_false]
    rw [ih hcs]
    rfl

/-- a value written without quotes: not empty, does not begin with a quote, holds no delimiter and no NUL -/
def PlainTok (isDelim : Nat → Bool) (tok : List Nat) : Prop :=
  tok ≠ [] ∧ tok.head? ≠ some 34 ∧ ∀ c ∈ tok, isDelim c = false ∧ c ≠ 0

theorem nextValue_plain (isDelim : Nat → Bool) (pre tok tail : List Nat)
    (hpre : ∀ c ∈ pre, isDelim c = true) (htok : PlainTok isDelim tok)
    (ht : ∀ d, tail.head? = some d → isDelim d = true) :
    nextValue isDelim (pre ++ tok ++ tail) = some (tok, tail.drop 1) := by
  obtain ⟨hne, hq, hnd⟩ := htok
  obtain ⟨t, ts, rfl⟩ := List.exists_cons_of_ne_nil hne
  have ht34 : t ≠ 34 := by rintro rfl; exact hq rfl
  unfold nextValue
  rw [List.append_assoc, List.dropWhile_append_of_pos hpre, List.cons_append,
    List.dropWhile_cons_of_neg (by simp [(hnd t (by simp)).1])]
  simp only [ht34, if_false]
  obtain ⟨a, b⟩ := span_stop (fun c => !isDelim c) (t :: ts) tail (fun c hc => by simp [(hnd c hc).1])
    (fun d hd => by simp [ht d hd])
  rw [← List.cons_append, a, b]
  simp

theorem nextValue_quoted (isDelim : Nat → Bool) (pre bs tail : List Nat)
    (hpre : ∀ c ∈ pre, isDelim c = true) (hbs : strSavable bs = true) (hq : isDelim 34 = false)
    (ht1 : endOrDelim tail = true) (ht2 : ∀ d, tail.head? = some d → isDelim d = true) :
    nextValue isDelim (pre ++ (34 :: bs ++ [34]) ++ tail) = some (34 :: bs ++ [34], tail.drop 1) := by
  unfold nextValue
  rw [List.append_assoc, List.dropWhile_append_of_pos hpre]
  have hdw : ((34 :: bs ++ [34]) ++ tail).dropWhile isDelim = 34 :: (bs ++ 34 :: tail) := by
    simp [hq]
  rw [hdw]
  simp only [if_true]
  rw [closeQuote_savable bs tail hbs ht1]
  simp only
  obtain ⟨a, b⟩ := span_stop (fun c => !isDelim c) [] tail (by simp) (fun d hd => by simp [ht2 d hd])
  simp only [List.nil_append] at a b
  rw [a, b]
  simp

theorem strtod_printReal (q : Rat) (h : isDouble q = true) : strtodC (printReal q) = .fin q := by
  unfold printReal
  simp only
  split
  · assumption
  · exact strtod_printG17 q h

/-- the delimiter sets of the value tokeniser hold nothing but tab, newline, comma and `=` -/
def DelimOK (isDelim : Nat → Bool) : Prop := ∀ c, isDelim c = true → (c = 9 ∨ c = 10 ∨ c = 44 ∨ c = 61)

theorem delimVal_ok : DelimOK delimVal := by
  intro c h; simp [delimVal] at h; omega

theorem delimVal1_ok : DelimOK delimVal1 := by
  intro c h; simp [delimVal1] at h; omega

/-- the characters of a printed number: `+`, `-` to `9`, `e`.  No NUL, white space, delimiter of the
tokenisers, quote or `M` is among them. -/
def SafeChar (c : Nat) : Prop := c = 43 ∨ (45 ≤ c ∧ c ≤ 57) ∨ c = 101

theorem SafeChar.ne {c : Nat} (h : SafeChar c) : c ≠ 0 ∧ c ≠ 10 := by unfold SafeChar at h; omega

theorem SafeChar.not_delim {c : Nat} (h : SafeChar c) : delimLine c = false ∧ delimKey c = false := by
  unfold SafeChar at h
  simp only [delimLine, delimKey, Bool.or_eq_false_iff, decide_eq_false_iff_not]
  omega

theorem realChar_safe (c : Nat) (h : realChar c = true) : SafeChar c := by
  simp [realChar, isDigit] at h; unfold SafeChar; omega

theorem digit_safe (c : Nat) (h : isDigit c = true) : SafeChar c := realChar_safe c (realChar_digit c h)

theorem printInt_safe (z : Int) : printInt z ≠ [] ∧ ∀ c ∈ printInt z, SafeChar c := by
  have hd : ∀ n, ∀ c ∈ natDigits n, SafeChar c := fun n c hc => digit_safe c (natDigits_isDigit n c hc)
  unfold printInt
  split
  · refine ⟨by simp, fun c hc => ?_⟩
    rcases List.mem_cons.mp hc with rfl | hc
    · exact realChar_safe 45 (by decide)
    · exact hd _ c hc
  · exact ⟨natDigits_ne_nil _, hd _⟩

theorem printReal_safe (q : Rat) : printReal q ≠ [] ∧ ∀ c ∈ printReal q, SafeChar c := by
  have h : ∀ P, printG P q ≠ [] ∧ ∀ c ∈ printG P q, SafeChar c :=
    fun P => ⟨(printG_chars P q).1, fun c hc => realChar_safe c ((printG_chars P q).2 c hc)⟩
  unfold printReal
  simp only
  split
  · exact h 15
  · exact h 17

theorem plain_of_safe (isDelim : Nat → Bool) (hd : DelimOK isDelim) (tok : List Nat) (hne : tok ≠ [])
    (h : ∀ c ∈ tok, SafeChar c) : PlainTok isDelim tok ∧ tok ≠ kwMSNG := by
  refine ⟨⟨hne, ?_, fun c hc => ⟨?_, (h c hc).ne.1⟩⟩, ?_⟩
  · obtain ⟨t, ts, rfl⟩ := List.exists_cons_of_ne_nil hne
    have := h t (by simp); unfold SafeChar at this
    simp; omega
  · cases hcon : isDelim c with
    | false => rfl
    | true => have := hd c hcon; have := h c hc; unfold SafeChar at this; omega
  · rintro rfl; have := h 77 (by decide); unfold SafeChar at this; omega

/-- what `bufr_save_template` writes for a value: a plain token or a quoted string -/
def SavedTok (isDelim : Nat → Bool) (tok : List Nat) : Prop :=
  PlainTok isDelim tok ∨ ∃ bs, tok = 34 :: bs ++ [34] ∧ strSavable bs = true

theorem plain_or_MSNG (isDelim : Nat → Bool) (hd : DelimOK isDelim) (miss : Prop) [Decidable miss]
    (tok : List Nat) (h : tok ≠ [] ∧ ∀ c ∈ tok, SafeChar c) :
    PlainTok isDelim (if miss then kwMSNG else tok) := by
  split
  · exact ⟨by decide, by decide, fun c hc => by
      have : c = 77 ∨ c = 83 ∨ c = 78 ∨ c = 71 := by simpa [kwMSNG] using hc
      refine ⟨?_, by omega⟩
      cases hcon : isDelim c with
      | false => rfl
      | true => have := hd c hcon; omega⟩
  · exact (plain_of_safe isDelim hd tok h.1 h.2).1

theorem valSavable_cases {vt : VT} {vlen : Nat} {v : Val} (h : valSavable vt vlen v = true) :
    (∃ z, v = .i32 z ∧ vt = .int32 ∧ fitsI32 z = true) ∨ (∃ z, v = .i64 z ∧ vt = .int64 ∧ fitsI64 z = true) ∨
    (∃ q, v = .f64 (.fin q) ∧ vt = .flt64 ∧ isDouble q = true) ∨
    (∃ bs, v = .str bs ∧ vt = .string ∧ bs.length = vlen ∧ strSavable bs = true) := by
  cases v with
  | i32 z => simp only [valSavable, Bool.and_eq_true, decide_eq_true_eq] at h; exact Or.inl ⟨z, rfl, h⟩
  | i64 z => simp only [valSavable, Bool.and_eq_true, decide_eq_true_eq] at h; exact Or.inr (Or.inl ⟨z, rfl, h⟩)
  | f64 x =>
    cases x with
    | fin q =>
      simp only [valSavable, Bool.and_eq_true, decide_eq_true_eq] at h
      exact Or.inr (Or.inr (Or.inl ⟨q, rfl, h⟩))
    | _ => simp [valSavable] at h
  | str bs =>
    simp only [valSavable, Bool.and_eq_true, decide_eq_true_eq] at h
    exact Or.inr (Or.inr (Or.inr ⟨bs, rfl, h.1.1, h.1.2, h.2⟩))
  | _ => simp [valSavable] at h

theorem strSavable_chars (l : List Nat) (h : strSavable l = true) : ∀ c ∈ l, c ≠ 0 ∧ c ≠ 10 := by
  induction l with
  | nil => intro c hc; simp at hc
  | cons a l ih =>
    intro c hc
    unfold strSavable at h
    simp only [Bool.and_eq_true, Bool.not_eq_true', decide_eq_true_eq] at h
    rcases List.mem_cons.mp hc with rfl | hc
    · exact ⟨h.1.1.1, h.1.1.2⟩
    · exact ih h.2 c hc

theorem saveVal_str (bs : List Nat) (h : strSavable bs = true) : saveVal (.str bs) = 34 :: bs ++ [34] := by
  have := cstr_of_no_nul bs (fun c hc => (strSavable_chars bs h c hc).1)
  unfold cstr at this
  simp only [saveVal, this, List.cons_append]

theorem saveVal_tok (isDelim : Nat → Bool) (hd : DelimOK isDelim) (vt : VT) (vlen : Nat) (v : Val)
    (h : valSavable vt vlen v = true) : SavedTok isDelim (saveVal v) := by
  rcases valSavable_cases h with ⟨z, rfl, -, -⟩ | ⟨z, rfl, -, -⟩ | ⟨q, rfl, -, -⟩ | ⟨bs, rfl, -, -, hs⟩
  · exact Or.inl (plain_or_MSNG isDelim hd _ _ (printInt_safe z))
  · exact Or.inl (plain_or_MSNG isDelim hd _ _ (printInt_safe z))
  · exact Or.inl (plain_or_MSNG isDelim hd _ _ (printReal_safe q))
  · exact Or.inr ⟨bs, saveVal_str bs hs, hs⟩

theorem saveVal_chars (vt : VT) (vlen : Nat) (v : Val) (h : valSavable vt vlen v = true) :
    ∀ c ∈ saveVal v, c ≠ 0 ∧ c ≠ 10 := by
  intro c hc
  rcases saveVal_tok delimVal delimVal_ok vt vlen v h with ⟨_, _, hnd⟩ | ⟨bs, hbs, hs⟩
  · refine ⟨(hnd c hc).2, ?_⟩
    rintro rfl
    exact absurd (hnd 10 hc).1 (by decide)
  · rw [hbs] at hc
    simp only [List.cons_append, List.mem_cons, List.mem_append, List.mem_nil_iff, or_false] at hc
    rcases hc with rfl | hc | rfl
    · decide
    · exact strSavable_chars bs hs c hc
    · decide

theorem nextValue_saved (isDelim : Nat → Bool) (hq : isDelim 34 = false) (pre tok tail : List Nat)
    (hpre : ∀ c ∈ pre, isDelim c = true) (htok : SavedTok isDelim tok)
    (ht1 : endOrDelim tail = true) (ht2 : ∀ d, tail.head? = some d → isDelim d = true) :
    nextValue isDelim (pre ++ tok ++ tail) = some (tok, tail.drop 1) := by
  rcases htok with hp | ⟨bs, rfl, hs⟩
  · exact nextValue_plain isDelim pre tok tail hpre hp ht2
  · exact nextValue_quoted isDelim pre bs tail hpre hs hq ht1 ht2

theorem stripQuotes_quoted (bs : List Nat) : stripQuotes (34 :: bs ++ [34]) = bs := by
  unfold stripQuotes
  have h3 : (34 :: bs ++ [34]).getLast? = some 34 := by
    rw [show 34 :: bs ++ [34] = (34 :: bs) ++ [34] from rfl, List.getLast?_concat]
  rw [if_pos ⟨rfl, by simp, h3⟩]
  simp

theorem strPad_id (bs : List Nat) (h : ∀ c ∈ bs, c ≠ 0) : strPad (some bs) bs.length = bs := by
  have := cstr_of_no_nul bs h
  unfold cstr at this
  unfold strPad
  simp only [this, List.take_length, Nat.sub_self, List.replicate_zero, List.append_nil]

theorem parseVal_saveVal (vt : VT) (vlen : Nat) (v : Val) (h : valSavable vt vlen v = true) :
    parseVal vt vlen (saveVal v) = v := by
  rcases valSavable_cases h with ⟨z, rfl, rfl, hz⟩ | ⟨z, rfl, rfl, hz⟩ | ⟨q, rfl, rfl, hq⟩ | ⟨bs, rfl, rfl, hlen, hs⟩
  · simp only [saveVal]
    split
    · next hm => simp [parseVal, hm]
    · have hne := (plain_of_safe delimVal delimVal_ok _ (printInt_safe z).1 (printInt_safe z).2).2
      simp only [parseVal, hne, if_false]
      rw [atoiC_printInt z hz, wrapI32_fits z hz]
  · simp only [saveVal]
    split
    · next hm => simp [parseVal, hm]
    · have hne := (plain_of_safe delimVal delimVal_ok _ (printInt_safe z).1 (printInt_safe z).2).2
      simp only [parseVal, hne, if_false]
      rw [atolC_printInt z hz]
  · simp only [saveVal]
    split
    · next hm => simp [parseVal, hm]
    · next hm =>
      have hne := (plain_of_safe delimVal delimVal_ok _ (printReal_safe q).1 (printReal_safe q).2).2
      simp only [parseVal, hne, if_false]
      rw [strtod_printReal q hq]
      simp [fpMissingD, hm]
  · rw [saveVal_str bs hs]
    simp only [parseVal]
    rw [stripQuotes_quoted, ← hlen, strPad_id bs (fun c hc => (strSavable_chars bs hs c hc).1)]

theorem parseVals_nil (vt : VT) (vlen f : Nat) : parseVals vt vlen f [] = [] := by
  cases f <;> simp [parseVals, nextValue]

theorem nextValue_joined (isDelim : Nat → Bool) (hd : DelimOK isDelim) (h44 : isDelim 44 = true)
    (h10 : isDelim 10 = true) (vt : VT) (vlen : Nat) (pre : List Nat) (hpre : ∀ c ∈ pre, isDelim c = true)
    (v : Val) (rest : List Val) (hv : valSavable vt vlen v = true) :
    nextValue isDelim (pre ++ (joinComma ((v :: rest).map saveVal) ++ [10])) =
      some (saveVal v, if rest = [] then [] else joinComma (rest.map saveVal) ++ [10]) := by
  have hq : isDelim 34 = false := by
    cases hcon : isDelim 34 with
    | false => rfl
    | true => have := hd 34 hcon; omega
  have htok := saveVal_tok isDelim hd vt vlen v hv
  cases rest with
  | nil =>
    have := nextValue_saved isDelim hq pre (saveVal v) [10] hpre htok (by decide)
      (fun d hd => by cases hd; exact h10)
    simpa [joinComma] using this
  | cons w rest' =>
    have := nextValue_saved isDelim hq pre (saveVal v) (44 :: (joinComma ((w :: rest').map saveVal) ++ [10]))
      hpre htok (by simp [endOrDelim, delimVal]) (fun d hd => by cases hd; exact h44)
    simpa [joinComma] using this

theorem parseVals_joined (vt : VT) (vlen : Nat) (vals : List Val) (hall : ∀ v ∈ vals, valSavable vt vlen v = true)
    (f : Nat) (hf : (joinComma (vals.map saveVal) ++ [10]).length ≤ f) :
    parseVals vt vlen f (joinComma (vals.map saveVal) ++ [10]) = vals := by
  induction vals generalizing f with
  | nil =>
    cases f with
    | zero => rfl
    | succ f => simp [joinComma, parseVals, nextValue, delimVal]
  | cons v rest ih =>
    cases f with
    | zero => simp at hf
    | succ f =>
      have hnv := nextValue_joined delimVal delimVal_ok (by decide) (by decide) vt vlen [] (by simp) v rest
        (hall v (by simp))
      rw [List.nil_append] at hnv
      unfold parseVals
      rw [hnv]
      simp only [parseVal_saveVal vt vlen v (hall v (by simp)), List.cons.injEq, true_and]
      cases rest with
      | nil => exact parseVals_nil _ _ _
      | cons w rest' =>
        rw [if_neg (by simp)]
        refine ih (fun x hx => hall x (by simp [hx])) f ?_
        simp only [List.map_cons, joinComma, List.length_append, List.length_cons] at hf ⊢
        omega

/-- the value part of a saved line, read by the loader: `=v1,v2,…\n` -/
theorem values_of_line (vt : VT) (vlen : Nat) (vals : List Val) (hne : vals ≠ [])
    (hall : ∀ v ∈ vals, valSavable vt vlen v = true) :
    valuesAfter vt vlen (61 :: (joinComma (vals.map saveVal) ++ [10])) = vals := by
  obtain ⟨v, rest, rfl⟩ := List.exists_cons_of_ne_nil hne
  have hnv := nextValue_joined delimVal1 delimVal1_ok (by decide) (by decide) vt vlen [61] (by decide) v rest
    (hall v (by simp))
  unfold valuesAfter
  rw [show 61 :: (joinComma ((v :: rest).map saveVal) ++ [10]) = [61] ++ (joinComma ((v :: rest).map saveVal) ++ [10])
    from rfl, hnv]
  simp only [parseVal_saveVal vt vlen v (hall v (by simp)), List.cons.injEq, true_and]
  cases rest with
  | nil => exact parseVals_nil _ _ _
  | cons w rest' =>
    rw [if_neg (by simp)]
    exact parseVals_joined vt vlen (w :: rest') (fun x hx => hall x (by simp [hx])) _ (Nat.le_refl _)

theorem joinComma_chars (ls : List (List Nat)) : ∀ x ∈ joinComma ls, x = 44 ∨ ∃ l ∈ ls, x ∈ l := by
  induction ls with
  | nil => intro x hx; simp [joinComma] at hx
  | cons a rest ih =>
    cases rest with
    | nil => intro x hx; simp only [joinComma] at hx; exact Or.inr ⟨a, by simp, hx⟩
    | cons b rest' =>
      intro x hx
      simp only [joinComma, List.mem_append, List.mem_cons] at hx
      rcases hx with h | h | h
      · exact Or.inr ⟨a, by simp, h⟩
      · exact Or.inl h
      · rcases ih x h with h' | ⟨l, hl, hxl⟩
        · exact Or.inl h'
        · exact Or.inr ⟨l, by simp at hl ⊢; right; exact hl, hxl⟩

theorem dvSavable_vals (T : Tables) (c : DescVal) (h : dvSavable T c = true) :
    ∀ v ∈ c.vals, valSavable (loadVT T c.desc).1 (loadVT T c.desc).2 v = true := by
  unfold dvSavable at h
  simpa using h

theorem saveLineBody_chars (T : Tables) (c : DescVal) (hs : dvSavable T c = true) :
    ∀ x ∈ saveLineBody c, x ≠ 0 ∧ x ≠ 10 := by
  intro x hx
  unfold saveLineBody at hx
  rcases List.mem_append.mp hx with h | h
  · exact (digit_safe x (natDigits_isDigit _ x h)).ne
  · split at h
    · simp at h
    · rcases List.mem_append.mp h with h | h
      · simp [kwCommaValueEq] at h; omega
      · rcases joinComma_chars _ x h with h | ⟨l, hl, hxl⟩
        · omega
        · obtain ⟨v, hv, rfl⟩ := List.mem_map.mp hl
          exact saveVal_chars _ _ v (dvSavable_vals T c hs v hv) x hxl

/-- a line without NUL that begins with neither `#`, `*`, `L` nor `M`: an edition line or a descriptor line -/
theorem loadLine_plain (T : Tables) (st : LoadSt) (c : Nat) (r : List Nat) (hnz : ∀ x ∈ c :: r, x ≠ 0)
    (hc : c ≠ 35 ∧ c ≠ 42 ∧ c ≠ 76 ∧ c ≠ 77) :
    loadLine T st (c :: r) =
      if hasPrefix (c :: r) kwBUFR_EDITION then editionLine st (c :: r) else descLine T st (c :: r) := by
  have hL : ∀ ks, hasPrefix (c :: r) (76 :: ks) = false := fun ks => by simp [hasPrefix, hc.2.2.1]
  have hM : ∀ ks, hasPrefix (c :: r) (77 :: ks) = false := fun ks => by simp [hasPrefix, hc.2.2.2]
  have hkey : isTableKey (c :: r) = false := by
    simp only [isTableKey, kwLOCAL_TABLEB, kwMASTER_TABLEB, kwLOCAL_TABLED, kwMASTER_TABLED, hL, hM, Bool.or_self]
  unfold loadLine
  simp only [cstr_of_no_nul _ hnz, List.head?_cons, Option.some.injEq, hc.1, hc.2.1, or_self, hkey, if_false,
    Bool.false_eq_true]

theorem loadLine_desc (T : Tables) (st : LoadSt) (c : DescVal) (hd : c.desc < 2 ^ 31) (hs : dvSavable T c = true) :
    loadLine T st (line (saveLineBody c)) = { st with codets := ((c.desc : Int), c.vals) :: st.codets } := by
  obtain ⟨d0, r0, hdig, hd0⟩ := natDigits_head c.desc
  have hd0' : 48 ≤ d0 ∧ d0 ≤ 57 := by simpa [isDigit] using hd0
  have hdigs : ∀ x ∈ natDigits c.desc, delimLine x = false :=
    fun x hx => (digit_safe x (natDigits_isDigit _ x hx)).not_delim.1
  -- the line is the descriptor, then nothing or `,VALUE=` and the values
  obtain ⟨tail, hline, htail⟩ : ∃ tail, line (saveLineBody c) = natDigits c.desc ++ tail ∧
      ∃ d rest, tail = d :: rest ∧ delimLine d = true ∧ lineValues T (c.desc : Int) tail = c.vals := by
    by_cases hv : c.vals = []
    · refine ⟨[10], by simp [line, saveLineBody, hv], 10, [], rfl, by decide, ?_⟩
      unfold lineValues
      rw [nextTok_none delimLine [10] (by decide), hv]
    · have hne : c.vals.isEmpty = false := by cases hc : c.vals with | nil => exact absurd hc hv | cons _ _ => rfl
      refine ⟨44 :: (kwVALUE ++ 61 :: (joinComma (c.vals.map saveVal) ++ [10])),
        by simp [line, saveLineBody, hne, kwCommaValueEq, kwVALUE], 44, _, rfl, by decide, ?_⟩
      have h2 := nextTok_mid delimLine [44] kwVALUE 61 (joinComma (c.vals.map saveVal) ++ [10])
        (by decide) (by decide) (by decide) (by decide)
      unfold lineValues
      rw [show 44 :: (kwVALUE ++ 61 :: (joinComma (c.vals.map saveVal) ++ [10])) =
        [44] ++ kwVALUE ++ 61 :: (joinComma (c.vals.map saveVal) ++ [10]) from rfl, h2]
      simp only [if_true]
      exact values_of_line _ _ c.vals hv (dvSavable_vals T c hs)
  obtain ⟨d, rest, rfl, hdd, hvals⟩ := htail
  have hnz : ∀ x ∈ line (saveLineBody c), x ≠ 0 := by
    intro x hx
    simp only [line, List.mem_append, List.mem_singleton] at hx
    rcases hx with h | h
    · exact (saveLineBody_chars T c hs x h).1
    · omega
  rw [hline, hdig] at hnz ⊢
  rw [List.cons_append, loadLine_plain T st d0 (r0 ++ d :: rest) hnz (by omega),
    show hasPrefix (d0 :: (r0 ++ d :: rest)) kwBUFR_EDITION = false by simp [hasPrefix, kwBUFR_EDITION]; omega]
  simp only [Bool.false_eq_true, if_false]
  unfold descLine
  rw [← List.cons_append, ← hdig, ← List.nil_append (natDigits c.desc),
    nextTok_mid delimLine [] (natDigits c.desc) d rest (by simp) hdigs (natDigits_ne_nil _) hdd]
  simp only [atoiC_natDigits c.desc hd, hvals]

theorem loadLine_comment (T : Tables) (st : LoadSt) (r : List Nat) : loadLine T st (35 :: r) = st := by
  unfold loadLine cstr
  simp [List.takeWhile]

theorem loadLine_edition (T : Tables) (st : LoadSt) (ed : Int) (h : fitsI32 ed = true) :
    loadLine T st (line (hdrEd ++ printInt ed)) = { st with edition := ed } := by
  obtain ⟨hne, hsafe⟩ := printInt_safe ed
  have hline : line (hdrEd ++ printInt ed) =
      66 :: ([85, 70, 82, 95, 69, 68, 73, 84, 73, 79, 78, 61] ++ printInt ed ++ [10]) := by  -- `B`, `UFR_EDITION=`
    simp [line, hdrEd]
  have hnz : ∀ x ∈ line (hdrEd ++ printInt ed), x ≠ 0 := by
    intro x hx
    simp only [line, List.mem_append, List.mem_singleton] at hx
    rcases hx with (h | h) | h
    · exact (by decide : ∀ x ∈ hdrEd, x ≠ 0) x h
    · exact (hsafe x h).ne.1
    · omega
  have hdrop : (line (hdrEd ++ printInt ed)).drop 12 = [61] ++ printInt ed ++ 10 :: [] := by
    simp [line, hdrEd]
  rw [hline] at hnz
  rw [hline, loadLine_plain T st 66 _ hnz (by decide), ← hline,
    show hasPrefix (line (hdrEd ++ printInt ed)) kwBUFR_EDITION = true by simp [hasPrefix, line, hdrEd, kwBUFR_EDITION],
    if_pos rfl]
  unfold editionLine
  rw [hdrop, nextTok_mid delimKey [61] (printInt ed) 10 [] (by decide)
    (fun c hc => (hsafe c hc).not_delim.2) hne (by decide)]
  simp only [atoiC_printInt ed h]

theorem foldl_saveLines (T : Tables) (cs : List DescVal) (st : LoadSt) (more : List (List Nat))
    (hd : ∀ c ∈ cs, c.desc < 2 ^ 31) (hs : ∀ c ∈ cs, dvSavable T c = true) :
    (cs.map (fun c => line (saveLineBody c)) ++ more).foldl (loadLine T) st =
      more.foldl (loadLine T) { st with codets := (cs.map fun c => ((c.desc : Int), c.vals)).reverse ++ st.codets } := by
  induction cs generalizing st with
  | nil => simp
  | cons c cs ih =>
    simp only [List.map_cons, List.cons_append, List.foldl_cons]
    rw [loadLine_desc T st c (hd c (by simp)) (hs c (by simp))]
    rw [ih _ (fun x hx => hd x (by simp [hx])) (fun x hx => hs x (by simp [hx]))]
    simp

theorem splitLines_saveLines (T : Tables) (cs : List DescVal) (rest : List Nat) (hs : ∀ c ∈ cs, dvSavable T c = true) :
    splitLines (saveLines cs ++ rest) [] = cs.map (fun c => line (saveLineBody c)) ++ splitLines rest [] := by
  induction cs with
  | nil => simp [saveLines]
  | cons c cs ih =>
    rw [saveLines, List.append_assoc, splitLines_line _ _ (fun x hx => (saveLineBody_chars T c (hs c (by simp)) x hx).2),
      ih (fun x hx => hs x (by simp [hx]))]
    rfl

theorem parseText_save (T : Tables) (t : TmplV) (hed : fitsI32 t.edition = true)
    (hd : ∀ c ∈ t.codets, c.desc < 2 ^ 31) (hs : ∀ c ∈ t.codets, dvSavable T c = true) :
    parseText T (save t) =
      { edition := t.edition, codets := (t.codets.map fun c => ((c.desc : Int), c.vals)).reverse } := by
  have h1 : ∀ x ∈ hdrA ++ natDigits t.codets.length ++ hdrB, x ≠ 10 := by
    intro x hx
    simp only [List.mem_append] at hx
    rcases hx with (h | h) | h
    · exact (by decide : ∀ x ∈ hdrA, x ≠ 10) x h
    · exact (digit_safe x (natDigits_isDigit _ x h)).ne.2
    · exact (by decide : ∀ x ∈ hdrB, x ≠ 10) x h
  have h2 : ∀ x ∈ hdrEd ++ printInt t.edition, x ≠ 10 := by
    intro x hx
    simp only [List.mem_append] at hx
    rcases hx with h | h
    · exact (by decide : ∀ x ∈ hdrEd, x ≠ 10) x h
    · exact ((printInt_safe t.edition).2 x h).ne.2
  unfold parseText save
  rw [List.append_assoc, List.append_assoc, List.append_assoc, splitLines_line _ _ h1, splitLines_line _ _ h2,
    splitLines_line hdrSep _ (by decide), splitLines_saveLines T t.codets _ hs,
    show splitLines (line hdrSep) [] = [line hdrSep] from rfl]
  -- a comment, the edition, a comment, the descriptors, a comment
  simp only [List.foldl_cons]
  rw [show line (hdrA ++ natDigits t.codets.length ++ hdrB) = 35 :: _ from rfl, loadLine_comment,
    loadLine_edition T _ t.edition hed, show line hdrSep = 35 :: _ from rfl, loadLine_comment,
    foldl_saveLines T t.codets _ _ hd hs]
  simp [loadLine_comment]

theorem finalizeV_fields (T : Tables) (fuel : Nat) (ed : Int) (cs : List DescVal) (t : TmplV)
    (h : finalizeV T fuel ed cs = .ok t) :
    t.edition = ed ∧ t.codets = cs ∧ descsValid T none (cs.map (·.desc)) = true := by
  unfold finalizeV at h
  simp only at h
  by_cases hv : descsValid T none (cs.map (·.desc)) = true
  · simp only [hv, Bool.not_true, Bool.false_eq_true, if_false] at h
    cases hc : checkSequence T (cs.map (·.desc)) with
    | none => rw [hc] at h; simp at h
    | some d =>
      rw [hc] at h
      simp only at h
      split at h
      · simp at h
      · simp only [Except.ok.injEq] at h
        subst h
        exact ⟨rfl, rfl, hv⟩
  · simp [hv] at h

theorem finalizeV_of_load (T : Tables) (fuel : Nat) (text : List Nat) (t : TmplV) (h : load T fuel text = .ok t) :
    finalizeV T fuel (parseText T text).edition
      ((parseText T text).codets.reverse.map fun c => { desc := c.1.toNat, vals := c.2 }) = .ok t := by
  unfold load at h
  simp only at h
  split at h
  · simp at h
  · split at h
    · next hf => cases h; exact hf
    · simp at h
    · simp at h

theorem descsValid_bound (T : Tables) (prev : Option Nat) (ds : List Nat) (h : descsValid T prev ds = true) :
    ∀ d ∈ ds, d < 400000 := by
  induction ds generalizing prev with
  | nil => intro d hd; simp at hd
  | cons a ds ih =>
    intro d hd
    unfold descsValid at h
    simp only [Bool.and_eq_true] at h
    rcases List.mem_cons.mp hd with rfl | hd
    · have h1 := h.1
      by_cases hdesc : isDescriptor d = true
      · unfold isDescriptor Desc.f Desc.y at hdesc
        simp only [Bool.and_eq_true, decide_eq_true_eq] at hdesc
        omega
      · simp [hdesc] at h1
    · exact ih (some a) h.2 d hd

theorem zip_self_all (l : List Node) : (l.zip l).all (fun p => decide (p.1.desc = p.2.desc)) = true := by
  induction l with
  | nil => rfl
  | cons a l ih => simp [List.zip_cons_cons, ih]

theorem compare_self (t : TmplV) : compareTemplate t t = 0 := by
  unfold compareTemplate
  rw [if_neg (by simp), if_pos (zip_self_all _)]

theorem mem_takeWhile_p (p : Nat → Bool) (l : List Nat) : ∀ c ∈ l.takeWhile p, p c = true := by
  induction l with
  | nil => intro c hc; simp at hc
  | cons a l ih =>
    intro c hc
    by_cases ha : p a = true
    · simp only [List.takeWhile_cons, ha, if_true, List.mem_cons] at hc
      rcases hc with rfl | hc
      · exact ha
      · exact ih c hc
    · simp [ha] at hc

theorem strPad_nonul (s : Option (List Nat)) (n : Nat) : ∀ c ∈ strPad s n, c ≠ 0 := by
  intro c hc
  cases s with
  | none =>
    simp only [strPad, List.nil_append, List.mem_replicate] at hc
    obtain ⟨_, h⟩ := hc
    split at h <;> omega
  | some bs =>
    simp only [strPad, List.mem_append, List.mem_replicate] at hc
    rcases hc with h | ⟨_, h⟩
    · simpa using mem_takeWhile_p _ bs c (List.mem_of_mem_take h)
    · split at h <;> omega

theorem strPad_normal (s : Option (List Nat)) (n : Nat) : dupVal (.str (strPad s n)) = .str (strPad s n) := by
  simp only [dupVal]
  rw [strPad_id _ (strPad_nonul s n)]

theorem dupVal_idem (v : Val) : dupVal (dupVal v) = dupVal v := by
  cases v with
  | str bs => simp only [dupVal]; rw [strPad_id _ (strPad_nonul _ _)]
  | _ => rfl

theorem parseVal_normal (vt : VT) (vlen : Nat) (tok : List Nat) :
    dupVal (parseVal vt vlen tok) = parseVal vt vlen tok := by
  cases vt with
  | string => simp only [parseVal]; exact strPad_normal _ _
  | int32 => simp only [parseVal]; split <;> rfl
  | int64 => simp only [parseVal]; split <;> rfl
  | flt64 =>
    simp only [parseVal]
    split
    · rfl
    · split <;> rfl
  | flt32 =>
    simp only [parseVal]
    split
    · rfl
    · split <;> rfl
  | undefined => rfl

theorem parseVals_normal (vt : VT) (vlen : Nat) (f : Nat) (s : List Nat) :
    ∀ v ∈ parseVals vt vlen f s, dupVal v = v := by
  induction f generalizing s with
  | zero => intro v hv; simp [parseVals] at hv
  | succ f ih =>
    intro v hv
    unfold parseVals at hv
    split at hv
    · simp at hv
    · simp only [List.mem_cons] at hv
      rcases hv with rfl | hv
      · exact parseVal_normal _ _ _
      · exact ih _ v hv

theorem lineValues_normal (T : Tables) (icode : Int) (rest : List Nat) :
    ∀ v ∈ lineValues T icode rest, dupVal v = v := by
  intro v hv
  unfold lineValues at hv
  split at hv
  · split at hv
    · unfold valuesAfter at hv
      split at hv
      · simp at hv
      · simp only [List.mem_cons] at hv
        rcases hv with rfl | hv
        · exact parseVal_normal _ _ _
        · exact parseVals_normal _ _ _ _ v hv
    · simp at hv
  · simp at hv

/-- every value the loader stores is in duplicated form -/
def StNormal (st : LoadSt) : Prop := ∀ p ∈ st.codets, ∀ v ∈ p.2, dupVal v = v

theorem loadLine_normal (T : Tables) (st : LoadSt) (l : List Nat) (h : StNormal st) : StNormal (loadLine T st l) := by
  unfold loadLine
  simp only
  split
  · exact h
  · split
    · exact h
    · split
      · unfold editionLine
        split
        · exact h
        · exact h
      · unfold descLine
        split
        · exact h
        · intro p hp v hv
          simp only [List.mem_cons] at hp
          rcases hp with rfl | hp
          · exact lineValues_normal T _ _ v hv
          · exact h p hp v hv

theorem foldl_normal (T : Tables) (ls : List (List Nat)) (st : LoadSt) (h : StNormal st) :
    StNormal (ls.foldl (loadLine T) st) := by
  induction ls generalizing st with
  | nil => exact h
  | cons l ls ih => exact ih _ (loadLine_normal T st l h)

theorem zip_all_iff (l1 l2 : List Node) (hl : l1.length = l2.length) :
    (l1.zip l2).all (fun p => decide (p.1.desc = p.2.desc)) = true ↔ l1.map (·.desc) = l2.map (·.desc) := by
  induction l1 generalizing l2 with
  | nil => cases l2 with
    | nil => simp
    | cons b l2 => simp at hl
  | cons a l1 ih =>
    cases l2 with
    | nil => simp at hl
    | cons b l2 =>
      simp only [List.length_cons, Nat.add_right_cancel_iff] at hl
      simp only [List.zip_cons_cons, List.all_cons, Bool.and_eq_true, decide_eq_true_eq, List.map_cons, List.cons.injEq]
      rw [ih l2 hl]

end TT
end Bufr
