import BufrModel.TemplateText
import BufrProofs.TemplateDigits
import BufrProofs.SoftFloat
/-
  Reals in a template text (C18): `%.15g` / `%.17g` written by `bufr_save_template` and read back by
  `strtod`.  A finite double printed with 17 significant digits reads back as itself
  (`strtod_printG17`): the 17 digits are within relative distance 5·10⁻¹⁷ of the double, and a value that
  close to a double rounds to it (`roundBin_near`); the rest is the reader on each layout of `%g`.
-/
namespace Bufr
namespace TT
open SF

theorem z10_pos (e : Int) : (0 : ℚ) < 10 ^ e := zpow_pos (by norm_num) e

theorem z10_le {a b : Int} (h : a ≤ b) : (10 : ℚ) ^ a ≤ 10 ^ b := zpow_le_zpow_right₀ (by norm_num) h

theorem z10_lt {a b : Int} (h : a < b) : (10 : ℚ) ^ a < 10 ^ b := zpow_lt_zpow_right₀ (by norm_num) h

theorem z10_lt_iff {a b : Int} : (10 : ℚ) ^ a < 10 ^ b ↔ a < b := zpow_lt_zpow_iff_right₀ (by norm_num)

theorem z10_add (a b : Int) : (10 : ℚ) ^ (a + b) = 10 ^ a * 10 ^ b := zpow_add₀ (by norm_num) a b

theorem z2_lt {a b : Int} (h : a < b) : (2 : ℚ) ^ a < 2 ^ b := SF.zpow2_lt h

theorem ilog2_unique (q : ℚ) (e : Int) (h1 : (2 : ℚ) ^ e ≤ q) (h2 : q < 2 ^ (e + 1)) : ilog2 q = e :=
  SF.ilog2_unique q e h1 h2

theorem rne_floor (x : ℚ) : x.floor = ⌊x⌋ := rfl

theorem roundBin_pos (p : Nat) (umin emax : Int) (v : ℚ) (hv : 0 < v) :
    roundBin p umin emax v =
      (let u := max (ilog2 v - ((p : Int) - 1)) umin
       let r := (rne (v / pow2 u) : ℚ) * pow2 u
       if pow2 emax ≤ r then FP.inf false else FP.fin r) := by
  unfold roundBin
  have h0 : ¬ v = 0 := ne_of_gt hv
  have h1 : ¬ v < 0 := not_lt.mpr hv.le
  simp [h0, h1]

theorem roundBin_neg (p : Nat) (umin emax : Int) (v : ℚ) (hv : 0 < v) :
    roundBin p umin emax (-v) =
      (let u := max (ilog2 v - ((p : Int) - 1)) umin
       let r := (rne (v / pow2 u) : ℚ) * pow2 u
       if pow2 emax ≤ r then FP.inf true else FP.fin (-r)) := by
  unfold roundBin
  have h0 : ¬ -v = 0 := by intro h; linarith
  have h1 : -v < 0 := by linarith
  simp [h0, h1]

/-- in units of its last place a double is its significand `m < 2^53`; a `w` within relative distance
5·10⁻¹⁷ of it is within one half, and within one quarter when it lies below `2^52` -/
theorem near_significand (w m : ℚ) (hm1 : 1 ≤ m) (hm2 : m ≤ 2 ^ 53 - 1)
    (h : |w - m| ≤ m / (2 * 10 ^ 16)) :
    |w - m| < 1 / 2 ∧ 0 < w ∧ w < 2 ^ 53 ∧ (2 ^ 52 ≤ m → 2 ^ 51 < w) ∧
      (w < 2 ^ 52 → |2 * w - 2 * m| < 1 / 2) := by
  obtain ⟨h1, h2⟩ := abs_le.mp h
  rw [neg_le, neg_sub, le_div_iff₀ (by norm_num)] at h1
  rw [le_div_iff₀ (by norm_num)] at h2
  refine ⟨abs_lt.mpr ⟨by linarith, by linarith⟩, by linarith, by linarith, fun _ => by linarith,
    fun _ => abs_lt.mpr ⟨by linarith, by linarith⟩⟩

theorem roundBin_near (a v : ℚ) (m : Nat) (u : Int)
    (ha : a = (m : ℚ) * 2 ^ u) (hm1 : 1 ≤ m) (hm2 : m < 2 ^ 53) (hu : -1074 ≤ u)
    (hnorm : u = -1074 ∨ 2 ^ 52 ≤ m) (hmax : a < pow2 1024) (hv : |v - a| ≤ a / (2 * 10 ^ 16)) :
    roundBin 53 (-1074) 1024 v = FP.fin a := by
  have hupos := zpow2_pos u
  -- `w` is `v` in units of `2^u`
  obtain ⟨w, rfl⟩ : ∃ w, v = w * 2 ^ u := ⟨v / 2 ^ u, (div_mul_cancel₀ v hupos.ne').symm⟩
  have hw : |w - m| ≤ (m : ℚ) / (2 * 10 ^ 16) := by
    rw [ha, ← sub_mul, abs_mul, abs_of_pos hupos, mul_div_right_comm] at hv
    exact le_of_mul_le_mul_right hv hupos
  obtain ⟨hnear, hwpos, hw53, hw51, hw52⟩ := near_significand w m (by exact_mod_cast hm1)
    (by have : (m : ℚ) + 1 ≤ 2 ^ 53 := by exact_mod_cast hm2
        linarith) hw
  have hvpos : 0 < w * 2 ^ u := mul_pos hwpos hupos
  obtain ⟨hl1, hl2⟩ := ilog2_spec_pos _ hvpos
  -- the result when the rounding unit is `2^u`, and when it is `2^(u-1)` (then `m = 2^52`, `w < 2^52`)
  have hsame : (rne (w * 2 ^ u / pow2 u) : ℚ) * pow2 u = a := by
    rw [pow2_eq, mul_div_cancel_right₀ _ hupos.ne', rne_near w m (by exact_mod_cast hnear), ha]; rfl
  have hhalf : w < 2 ^ 52 → (rne (w * 2 ^ u / pow2 (u - 1)) : ℚ) * pow2 (u - 1) = a := by
    intro h
    have e : (2 : ℚ) ^ u = 2 * 2 ^ (u - 1) := by rw [← zpow_one_add₀ two_ne_zero]; congr 1; ring
    rw [pow2_eq, e, ← mul_assoc, mul_div_cancel_right₀ _ (zpow2_pos _).ne', mul_comm w,
      rne_near (2 * w) (2 * m) (by exact_mod_cast hw52 h), ha, e]
    push_cast; ring
  have hk1 : ilog2 (w * 2 ^ u) < u + 53 := by
    refine zpow2_lt_iff.mp (lt_of_le_of_lt hl1 ?_)
    rw [add_comm, zpow2_add]
    exact mul_lt_mul_of_pos_right (by norm_num at hw53 ⊢; exact hw53) hupos
  rw [roundBin_pos 53 (-1074) 1024 _ hvpos]
  have hr : (rne (w * 2 ^ u / pow2 (max (ilog2 (w * 2 ^ u) - 52) (-1074))) : ℚ) *
      pow2 (max (ilog2 (w * 2 ^ u) - 52) (-1074)) = a := by
    rcases hnorm with hsub | hnor
    · rw [max_eq_right (by omega), ← hsub]; exact hsame
    · have hk2 : u + 51 < ilog2 (w * 2 ^ u) + 1 := by
        refine zpow2_lt_iff.mp (lt_trans ?_ hl2)
        rw [add_comm, zpow2_add]
        have h51 := hw51 (by exact_mod_cast hnor)
        exact mul_lt_mul_of_pos_right (by norm_num at h51 ⊢; exact h51) hupos
      by_cases hcase : ilog2 (w * 2 ^ u) = u + 52
      · rw [hcase, max_eq_left (by omega), add_sub_cancel_right]; exact hsame
      · have hk3 : ilog2 (w * 2 ^ u) = u + 51 := by omega
        by_cases hu0 : u = -1074
        · rw [max_eq_right (by omega), ← hu0]; exact hsame
        · rw [hk3, max_eq_left (by omega), show u + 51 - 52 = u - 1 by ring]
          apply hhalf
          rw [hk3, show u + 51 + 1 = 52 + u by ring, zpow2_add] at hl2
          have := lt_of_mul_lt_mul_right hl2 hupos.le
          norm_num at this ⊢
          exact this
  simp only [Nat.cast_ofNat, show (53 : Int) - 1 = 52 by norm_num, hr, if_neg (not_le.mpr hmax)]

/-- the characters `%g` produces -/
def realChar (c : Nat) : Bool := isDigit c || c = 46 || c = 101 || c = 43 || c = 45

theorem realChar_digit (c : Nat) (h : isDigit c = true) : realChar c = true := by simp [realChar, h]

theorem expPart_chars (x : Int) : ∀ c ∈ expPart x, realChar c = true := by
  intro c hc
  unfold expPart at hc
  simp only [List.mem_cons] at hc
  rcases hc with rfl | hc | hc
  · decide
  · subst hc; split <;> decide
  · split at hc
    · simp only [List.mem_cons] at hc
      rcases hc with rfl | hc
      · decide
      · exact realChar_digit c (natDigits_isDigit _ c hc)
    · exact realChar_digit c (natDigits_isDigit _ c hc)

/-- the part of `%.Pg` after the sign, for a magnitude `a > 0` -/
def gBody (P : Nat) (a : ℚ) : List Nat :=
  layoutG P (natDigits (stripZeros 400 (rne (a / pow10r (decExp a - (P : Int) + 1))).toNat 0).1)
    (decExp a - (P : Int) + 1 + (stripZeros 400 (rne (a / pow10r (decExp a - (P : Int) + 1))).toNat 0).2)

theorem printG_eq (P : Nat) (x : ℚ) (hx : x ≠ 0) :
    printG P x = if x < 0 then 45 :: gBody P (-x) else gBody P x := by
  unfold printG gBody
  rw [if_neg hx]
  by_cases hn : x < 0
  · simp only [hn, if_true]
  · simp only [hn, if_false]

/-- nothing, or the exponent part of `%e` -/
def IsExp (ep : List Nat) (x : Int) : Prop := (ep = [] ∧ x = 0) ∨ ep = expPart x

theorem isExp_head (ep : List Nat) (x : Int) (h : IsExp ep x) :
    ∀ d, ep.head? = some d → isDigit d = false ∧ d ≠ 46 := by
  intro d hd
  rcases h with ⟨rfl, _⟩ | rfl
  · simp at hd
  · simp [expPart] at hd; subst hd; decide

theorem parseExpPart_isExp (ep : List Nat) (x : Int) (h : IsExp ep x) : parseExpPart 101 69 ep = x := by
  rcases h with ⟨rfl, rfl⟩ | rfl
  · rfl
  · unfold expPart parseExpPart
    simp only [true_or, if_true]
    -- the digits of the exponent, with a leading zero when there is only one
    set ds := natDigits x.natAbs with hds
    have hdig : ∀ c ∈ (if ds.length < 2 then 48 :: ds else ds), isDigit c = true := by
      intro c hc
      split at hc
      · simp only [List.mem_cons] at hc
        rcases hc with rfl | hc
        · decide
        · exact natDigits_isDigit _ c hc
      · exact natDigits_isDigit _ c hc
    have hval : digitsVal (if ds.length < 2 then 48 :: ds else ds) 0 = x.natAbs := by
      rw [digitsVal_all _ hdig]
      split
      · have : (48 :: ds) = [48] ++ ds := rfl
        rw [this, dv_append, dv_natDigits]; simp [dv]
      · exact dv_natDigits _
    obtain ⟨c0, r0, hc0, hd0⟩ : ∃ c r, (if ds.length < 2 then 48 :: ds else ds) = c :: r ∧ isDigit c = true := by
      split
      · exact ⟨48, ds, rfl, by decide⟩
      · exact natDigits_head _
    by_cases hx : x < 0
    · simp only [hx, if_true, takeSign]
      rw [hc0] at hval ⊢
      simp only [hd0, if_true, hval]
      omega
    · simp only [hx, if_false, takeSign]
      rw [hc0] at hval ⊢
      simp only [hd0, if_true, hval, Bool.false_eq_true, if_false]
      omega

/-- the text of a decimal number: integer digits, a point and fraction digits if there are any, exponent part -/
def decText (ip fp ep : List Nat) : List Nat := if fp = [] then ip ++ ep else ip ++ 46 :: (fp ++ ep)

theorem append_isDigit {l1 l2 : List Nat} (h1 : ∀ c ∈ l1, isDigit c = true) (h2 : ∀ c ∈ l2, isDigit c = true) :
    ∀ c ∈ l1 ++ l2, isDigit c = true := fun c hc => (List.mem_append.mp hc).elim (h1 c) (h2 c)

theorem parseDecimal_decText (ip fp ep : List Nat) (x : Int) (hip : ∀ c ∈ ip, isDigit c = true) (hne : ip ≠ [])
    (hfp : ∀ c ∈ fp, isDigit c = true) (hep : IsExp ep x) :
    parseDecimal (decText ip fp ep) = some (dv (ip ++ fp), x - fp.length) := by
  have hh := isExp_head ep x hep
  have hnotempty : ∀ l : List Nat, ¬ (ip.isEmpty = true ∧ l.isEmpty = true) := by
    intro l h; obtain ⟨c, r, rfl⟩ := List.exists_cons_of_ne_nil hne; simp at h
  unfold decText
  split
  · next hfp0 =>
    subst hfp0
    obtain ⟨a, b⟩ := span_stop isDigit ip ep hip (fun d hd => (hh d hd).1)
    have hfr : fracDigits isDigit ep = [] ∧ fracRest isDigit ep = ep := by
      cases ep with
      | nil => exact ⟨rfl, rfl⟩
      | cons d r =>
        have := (hh d rfl).2
        unfold fracDigits fracRest
        constructor <;> split
        · next heq => exact absurd (List.cons.inj heq).1 this
        · rfl
        · next heq => exact absurd (List.cons.inj heq).1 this
        · rfl
    unfold parseDecimal
    simp only [a, b, hfr.1, hfr.2]
    rw [if_neg (hnotempty _)]
    simp [digitsVal_all ip hip, parseExpPart_isExp ep x hep]
  · obtain ⟨a, b⟩ := span_stop isDigit ip (46 :: (fp ++ ep)) hip (fun d hd => by cases hd; decide)
    obtain ⟨a2, b2⟩ := span_stop isDigit fp ep hfp (fun d hd => (hh d hd).1)
    unfold parseDecimal
    simp only [a, b, fracDigits, fracRest, a2, b2]
    rw [if_neg (hnotempty _)]
    simp [digitsVal_all _ (append_isDigit hip hfp), parseExpPart_isExp ep x hep]

theorem decText_chars (ip fp ep : List Nat) (x : Int) (hip : ∀ c ∈ ip, isDigit c = true) (hne : ip ≠ [])
    (hfp : ∀ c ∈ fp, isDigit c = true) (hep : IsExp ep x) :
    (∃ c0 r0, decText ip fp ep = c0 :: r0 ∧ isDigit c0 = true) ∧ ∀ c ∈ decText ip fp ep, realChar c = true := by
  have hepc : ∀ c ∈ ep, realChar c = true := by
    rcases hep with ⟨rfl, _⟩ | rfl
    · intro c hc; simp at hc
    · exact expPart_chars x
  constructor
  · obtain ⟨c0, r, rfl⟩ := List.exists_cons_of_ne_nil hne
    unfold decText
    split
    · exact ⟨c0, _, rfl, hip c0 (by simp)⟩
    · exact ⟨c0, _, rfl, hip c0 (by simp)⟩
  · intro c hc
    unfold decText at hc
    split at hc
    · exact (List.mem_append.mp hc).elim (fun h => realChar_digit c (hip c h)) (hepc c)
    · simp only [List.mem_append, List.mem_cons] at hc
      rcases hc with h | rfl | h | h
      · exact realChar_digit c (hip c h)
      · decide
      · exact realChar_digit c (hfp c h)
      · exact hepc c h

theorem layoutG_shape (P : Nat) (ds : List Nat) (q : Int) (hds : ∀ c ∈ ds, isDigit c = true) (hne : ds ≠ []) :
    ∃ ip fp ep x, layoutG P ds q = decText ip fp ep ∧ (∀ c ∈ ip, isDigit c = true) ∧ ip ≠ [] ∧
      (∀ c ∈ fp, isDigit c = true) ∧ IsExp ep x ∧
      ((dv (ip ++ fp) = dv ds ∧ x - fp.length = q) ∨
       (0 ≤ q ∧ q + ds.length - 1 < P ∧ fp = [] ∧ x = 0 ∧ dv ip = dv ds * 10 ^ q.toNat)) := by
  obtain ⟨d, rest, rfl⟩ := List.exists_cons_of_ne_nil hne
  unfold layoutG
  simp only
  by_cases hX : -4 ≤ q + (d :: rest).length - 1 ∧ q + (d :: rest).length - 1 < P
  · rw [if_pos hX]
    by_cases hq : 0 ≤ q
    · rw [if_pos hq]
      exact ⟨(d :: rest) ++ zeros q.toNat, [], [], 0, by simp [decText], append_isDigit hds (zeros_isDigit _), by simp,
        by simp, Or.inl ⟨rfl, rfl⟩, Or.inr ⟨hq, hX.2, rfl, rfl, by rw [dv_append, dv_zeros]; simp [zeros]⟩⟩
    · rw [if_neg hq]
      by_cases hX0 : 0 ≤ q + (d :: rest).length - 1
      · rw [if_pos hX0]
        generalize hk : (q + (d :: rest).length - 1).toNat + 1 = k
        have hlt : k < (d :: rest).length := by omega
        have hdrop : (d :: rest).drop k ≠ [] := by rw [Ne, List.drop_eq_nil_iff]; omega
        exact ⟨(d :: rest).take k, (d :: rest).drop k, [], 0,
          by simp only [decText, if_neg hdrop, List.append_nil],
          fun c hc => hds c (List.mem_of_mem_take hc), by rw [← hk]; exact List.cons_ne_nil _ _,
          fun c hc => hds c (List.mem_of_mem_drop hc), Or.inl ⟨rfl, rfl⟩,
          Or.inl ⟨by rw [List.take_append_drop], by rw [List.length_drop]; omega⟩⟩
      · rw [if_neg hX0]
        exact ⟨[48], zeros (-(q + (d :: rest).length - 1) - 1).toNat ++ d :: rest, [], 0, by simp [decText], by decide,
          by simp, append_isDigit (zeros_isDigit _) hds, Or.inl ⟨rfl, rfl⟩,
          Or.inl ⟨by rw [dv_append, dv_append, dv_zeros, show dv [48] = 0 from rfl, Nat.zero_mul, Nat.zero_mul, Nat.zero_add,
            Nat.zero_add],
            by simp only [List.length_append, zeros, List.length_replicate]; omega⟩⟩
  · rw [if_neg hX]
    have hd : ∀ c ∈ [d], isDigit c = true := fun c hc => hds c (by simp at hc; simp [hc])
    cases rest with
    | nil =>
      exact ⟨[d], [], _, q + ([d] : List Nat).length - 1, by simp [decText], hd, by simp, by simp, Or.inr rfl,
        Or.inl ⟨rfl, by simp⟩⟩
    | cons d2 r2 =>
      exact ⟨[d], d2 :: r2, _, q + (d :: d2 :: r2 : List Nat).length - 1, by simp [decText], hd, by simp,
        fun c hc => hds c (by simp at hc ⊢; right; exact hc),
        Or.inr rfl, Or.inl ⟨rfl, by simp only [List.length_cons]; push_cast; ring⟩⟩

/-- the decimal reader on the layouts of `%g`: mantissa `dv ds` and exponent `q`, except that the zeros
appended to an integer written in full belong to the mantissa -/
theorem parse_layout (P : Nat) (ds : List Nat) (q : Int) (hds : ∀ c ∈ ds, isDigit c = true) (hne : ds ≠ []) :
    parseDecimal (layoutG P ds q) = some (dv ds, q) ∨
    (0 ≤ q ∧ q + ds.length - 1 < P ∧ parseDecimal (layoutG P ds q) = some (dv ds * 10 ^ q.toNat, 0)) := by
  obtain ⟨ip, fp, ep, x, hl, hip, hne', hfp, hep, hv⟩ := layoutG_shape P ds q hds hne
  rw [hl, parseDecimal_decText ip fp ep x hip hne' hfp hep]
  rcases hv with ⟨h1, h2⟩ | ⟨hq, hP, rfl, rfl, h⟩
  · left; rw [h1, h2]
  · right; exact ⟨hq, hP, by simp [h]⟩

theorem gBody_shape (P : Nat) (a : ℚ) :
    (∃ c0 r0, gBody P a = c0 :: r0 ∧ isDigit c0 = true) ∧ ∀ c ∈ gBody P a, realChar c = true := by
  unfold gBody
  obtain ⟨ip, fp, ep, x, hl, hip, hne', hfp, hep, _⟩ := layoutG_shape P _
    (decExp a - (P : Int) + 1 + (stripZeros 400 (rne (a / pow10r (decExp a - (P : Int) + 1))).toNat 0).2)
    (natDigits_isDigit (stripZeros 400 (rne (a / pow10r (decExp a - (P : Int) + 1))).toNat 0).1) (natDigits_ne_nil _)
  rw [hl]
  exact decText_chars ip fp ep x hip hne' hfp hep

theorem printG_chars (P : Nat) (x : Rat) : printG P x ≠ [] ∧ ∀ c ∈ printG P x, realChar c = true := by
  by_cases hx : x = 0
  · subst hx
    exact ⟨by simp [printG], by intro c hc; simp [printG] at hc; subst hc; decide⟩
  · rw [printG_eq P x hx]
    split
    · obtain ⟨_, hch⟩ := gBody_shape P (-x)
      refine ⟨by simp, fun c hc => ?_⟩
      rcases List.mem_cons.mp hc with rfl | hc
      · decide
      · exact hch c hc
    · obtain ⟨⟨c0, r0, h, _⟩, hch⟩ := gBody_shape P x
      exact ⟨by rw [h]; simp, hch⟩

theorem hexPrefix_none (body : List Nat) (hch : ∀ c ∈ body, realChar c = true) : hexPrefix body = none := by
  unfold hexPrefix
  split
  · rename_i x r
    have hx := hch x (by simp)
    have : ¬ (x = 120 ∨ x = 88) := by
      intro h; rcases h with rfl | rfl <;> simp [realChar, isDigit] at hx
    rw [if_neg this]
  · rfl

theorem startsWithCI_digit (c0 : Nat) (r0 kw : List Nat) (k : Nat) (ks : List Nat) (hk : kw = k :: ks) (hc0 : isDigit c0 = true)
    (hkl : 97 ≤ k) : startsWithCI (c0 :: r0) kw = false := by
  subst hk
  simp only [startsWithCI, List.length_cons, List.take_succ_cons, List.map_cons]
  have : lower c0 ≠ k := by
    simp [isDigit] at hc0
    unfold lower
    split <;> omega
  simp [this]

theorem strtoGen_body (p : Nat) (umin emax : Int) (body : List Nat) (c0 : Nat) (r0 : List Nat) (hb : body = c0 :: r0)
    (hc0 : isDigit c0 = true) (hch : ∀ c ∈ body, realChar c = true) :
    strtoGen p umin emax body = decimalValue p umin emax body ∧
    strtoGen p umin emax (45 :: body) = negFP (decimalValue p umin emax body) := by
  have hinf : startsWithCI body kwInf = false := by
    rw [hb]; exact startsWithCI_digit c0 r0 kwInf 105 [110, 102] rfl hc0 (by norm_num)
  have hnan : startsWithCI body kwNan = false := by
    rw [hb]; exact startsWithCI_digit c0 r0 kwNan 110 [97, 110] rfl hc0 (by norm_num)
  have hhex := hexPrefix_none body hch
  constructor
  · unfold strtoGen
    rw [hb, sign_of_digit c0 r0 hc0, ← hb]
    simp only [hinf, hnan, hhex, Bool.false_eq_true, if_false]
  · unfold strtoGen
    rw [sign_of_minus]
    simp only [hinf, hnan, hhex, Bool.false_eq_true, if_false, if_true]

theorem decExpDown_spec (a : ℚ) (f : Nat) (e : Int) (h1 : a < (10 : ℚ) ^ (e + 1)) (h2 : (10 : ℚ) ^ (e - f) ≤ a) :
    (10 : ℚ) ^ (decExpDown (f + 1) a e) ≤ a ∧ a < (10 : ℚ) ^ (decExpDown (f + 1) a e + 1) := by
  induction f generalizing e with
  | zero =>
    unfold decExpDown
    have : pow10r e ≤ a := by rw [pow10r_eq]; simpa using h2
    rw [if_pos this]
    exact ⟨by simpa using h2, h1⟩
  | succ f ih =>
    unfold decExpDown
    by_cases hc : pow10r e ≤ a
    · rw [if_pos hc]
      rw [pow10r_eq] at hc
      exact ⟨hc, h1⟩
    · rw [if_neg hc]
      rw [pow10r_eq, not_le] at hc
      apply ih (e - 1)
      · rw [show e - 1 + 1 = e by ring]; exact hc
      · have : e - 1 - (f : Int) = e - ((f + 1 : Nat) : Int) := by push_cast; ring
        rw [this]; exact h2

set_option exponentiation.threshold 2000 in
theorem num_2_1024_lt : (2 : ℚ) ^ (1024 : Int) < 10 ^ (309 : Int) := by
  rw [zpow_ofNat, zpow_ofNat]
  exact_mod_cast (by norm_num : (2 : ℕ) ^ 1024 < 10 ^ 309)
set_option exponentiation.threshold 2000 in
theorem num_10_390_le : (10 : ℚ) ^ (-390 : Int) ≤ 2 ^ (-1074 : Int) := by
  rw [zpow_neg, zpow_neg, zpow_ofNat, zpow_ofNat]
  apply inv_anti₀ (by positivity)
  exact_mod_cast (by norm_num : (2 : ℕ) ^ 1074 ≤ 10 ^ 390)
set_option exponentiation.threshold 2000 in
theorem num_10_324_le : (10 : ℚ) ^ (-324 : Int) ≤ 2 ^ (-1074 : Int) := by
  rw [zpow_neg, zpow_neg, zpow_ofNat, zpow_ofNat]
  apply inv_anti₀ (by positivity)
  exact_mod_cast (by norm_num : (2 : ℕ) ^ 1074 ≤ 10 ^ 324)

theorem decExp_spec (a : ℚ) (ha1 : (2 : ℚ) ^ (-1074 : Int) ≤ a) (ha2 : a < 2 ^ (1024 : Int)) :
    (10 : ℚ) ^ decExp a ≤ a ∧ a < (10 : ℚ) ^ (decExp a + 1) ∧ -324 ≤ decExp a ∧ decExp a ≤ 308 := by
  have key : ∀ start : Int, start ≤ 309 → a < (10 : ℚ) ^ (start + 1) →
      (10 : ℚ) ^ decExpDown 700 a start ≤ a ∧ a < (10 : ℚ) ^ (decExpDown 700 a start + 1) := by
    intro start hs hlt
    apply decExpDown_spec a 699 start hlt
    calc (10 : ℚ) ^ (start - (699 : Nat)) ≤ 10 ^ (-390 : Int) := z10_le (by push_cast; omega)
      _ ≤ 2 ^ (-1074 : Int) := num_10_390_le
      _ ≤ a := ha1
  have hspec : (10 : ℚ) ^ decExp a ≤ a ∧ a < (10 : ℚ) ^ (decExp a + 1) := by
    unfold decExp
    simp only
    split
    · rename_i h
      exact key _ h.1 (by rw [← pow10r_eq]; exact h.2)
    · apply key 309 (le_refl _)
      calc a < 2 ^ (1024 : Int) := ha2
        _ < 10 ^ (309 : Int) := num_2_1024_lt
        _ ≤ 10 ^ ((309 : Int) + 1) := z10_le (by norm_num)
  refine ⟨hspec.1, hspec.2, ?_, ?_⟩
  · have : (10 : ℚ) ^ (-324 : Int) < 10 ^ (decExp a + 1) :=
      lt_of_le_of_lt (le_trans num_10_324_le ha1) hspec.2
    have := z10_lt_iff.mp this
    omega
  · have : (10 : ℚ) ^ decExp a < 10 ^ (309 : Int) := lt_of_le_of_lt hspec.1 (lt_trans ha2 num_2_1024_lt)
    have := z10_lt_iff.mp this
    omega

theorem stripZeros_spec (f d z : Nat) :
    (stripZeros f d z).1 * 10 ^ (stripZeros f d z).2 = d * 10 ^ z ∧ z ≤ (stripZeros f d z).2 ∧
      (0 < d → 0 < (stripZeros f d z).1) := by
  induction f generalizing d z with
  | zero => simp [stripZeros]
  | succ f ih =>
    unfold stripZeros
    split
    · rename_i h
      obtain ⟨a, b, c⟩ := ih (d / 10) (z + 1)
      refine ⟨?_, by omega, ?_⟩
      · rw [a]
        have h10 := Nat.div_add_mod d 10
        rw [h.2] at h10
        calc d / 10 * 10 ^ (z + 1) = (10 * (d / 10) + 0) * 10 ^ z := by ring
          _ = d * 10 ^ z := by rw [h10]
      · intro hd; apply c; omega
    · exact ⟨rfl, le_refl _, fun h => h⟩

theorem double_repr (a : ℚ) (hapos : 0 < a)
    (hden : (a / pow2 (max (ilog2 a - 52) (-1074))).den = 1) (hmax : a < pow2 1024) :
    ∃ (m : Nat) (u : Int), a = (m : ℚ) * 2 ^ u ∧ 1 ≤ m ∧ m < 2 ^ 53 ∧ -1074 ≤ u ∧ (u = -1074 ∨ 2 ^ 52 ≤ m) ∧
      a < 2 ^ (1024 : Int) ∧ (2 : ℚ) ^ (-1074 : Int) ≤ a := by
  set u := max (ilog2 a - 52) (-1074) with hu
  rw [pow2_eq] at hden hmax
  have hupos := zpow2_pos u
  have hx := Rat.coe_int_num_of_den_eq_one hden
  have hxpos : 0 < a / 2 ^ u := div_pos hapos hupos
  have hnpos : 0 < (a / 2 ^ u).num := Rat.num_pos.mpr hxpos
  obtain ⟨m, hm⟩ := Int.eq_ofNat_of_zero_le hnpos.le
  have ham : a = (m : ℚ) * 2 ^ u := by
    have : a / 2 ^ u = (m : ℚ) := by rw [← hx, hm]; simp
    rw [← this]; field_simp
  obtain ⟨hl1, hl2⟩ := ilog2_spec_pos a hapos
  have hu1 : -1074 ≤ u := le_max_right _ _
  have hu2 : ilog2 a - 52 ≤ u := le_max_left _ _
  have hm1 : 1 ≤ m := by
    have : 0 < m := by
      rcases Nat.eq_zero_or_pos m with h0 | h0
      · subst h0; rw [hm] at hnpos; simp at hnpos
      · exact h0
    omega
  refine ⟨m, u, ham, hm1, ?_, hu1, ?_, hmax, ?_⟩
  · -- m < 2^53
    have : (m : ℚ) * 2 ^ u < 2 ^ (53 : Int) * 2 ^ u := by
      rw [← ham, ← zpow2_add]
      exact lt_of_lt_of_le hl2 (zpow2_le (by omega))
    have h2 : (m : ℚ) < 2 ^ (53 : Int) := lt_of_mul_lt_mul_right this hupos.le
    rw [zpow_ofNat] at h2
    exact_mod_cast h2
  · by_cases hc : u = -1074
    · exact Or.inl hc
    · right
      have hu3 : u = ilog2 a - 52 := by
        rcases max_choice (ilog2 a - 52) (-1074) with h | h
        · rw [hu]; exact h
        · exact absurd (by rw [hu]; exact h) hc
      have : (2 : ℚ) ^ (52 : Int) * 2 ^ u ≤ (m : ℚ) * 2 ^ u := by
        rw [← ham, ← zpow2_add]
        have : (52 : Int) + u = ilog2 a := by omega
        rw [this]; exact hl1
      have h2 : (2 : ℚ) ^ (52 : Int) ≤ (m : ℚ) := le_of_mul_le_mul_right this hupos
      rw [zpow_ofNat] at h2
      exact_mod_cast h2
  · calc (2 : ℚ) ^ (-1074 : Int) ≤ 2 ^ u := zpow2_le hu1
      _ = 1 * 2 ^ u := by ring
      _ ≤ (m : ℚ) * 2 ^ u := by
          apply mul_le_mul_of_nonneg_right _ hupos.le
          exact_mod_cast hm1
      _ = a := ham.symm

theorem decimalToFP_round (p : Nat) (umin emax : Int) (M : Nat) (E : Int) (hM : 0 < M)
    (h1 : E + ((natDigits M).length : Int) ≤ 400) (h2 : -400 ≤ E + ((natDigits M).length : Int)) :
    decimalToFP p umin emax M E = roundBin p umin emax ((M : ℚ) * pow10r E) := by
  unfold decimalToFP
  rw [if_neg (by omega)]
  simp only
  rw [if_neg (by omega), if_neg (by omega)]

theorem round17 (a : ℚ) (e : Int) (h1 : (10 : ℚ) ^ e ≤ a) (h2 : a < (10 : ℚ) ^ (e + 1)) :
    ∃ D0 : Nat, rne (a / pow10r (e - 17 + 1)) = D0 ∧ 10 ^ 16 ≤ D0 ∧ D0 ≤ 10 ^ 17 ∧
      |(D0 : ℚ) * (10 : ℚ) ^ (e - 16) - a| ≤ a / (2 * 10 ^ 16) := by
  have hs := z10_pos (e - 16)
  rw [pow10r_eq, show e - 17 + 1 = e - 16 by ring]
  -- `x`: `a` in units of the last of the 17 digits
  obtain ⟨x, rfl⟩ : ∃ x, a = x * 10 ^ (e - 16) := ⟨a / 10 ^ (e - 16), (div_mul_cancel₀ a hs.ne').symm⟩
  rw [mul_div_cancel_right₀ _ hs.ne']
  have hp : ∀ k : Nat, (10 : ℚ) ^ (e - 16 + k) = ((10 ^ k : Int) : ℚ) * 10 ^ (e - 16) := by
    intro k; rw [z10_add, zpow_natCast, mul_comm]; norm_cast
  have hx1 : ((10 ^ 16 : Int) : ℚ) ≤ x := by
    rw [show (10 : ℚ) ^ e = _ from (congrArg _ (by omega)).trans (hp 16)] at h1
    exact le_of_mul_le_mul_right h1 hs
  have hx2 : x ≤ ((10 ^ 17 : Int) : ℚ) := by
    rw [show (10 : ℚ) ^ (e + 1) = _ from (congrArg _ (by omega)).trans (hp 17)] at h2
    exact (lt_of_mul_lt_mul_right h2 hs.le).le
  have hr1 := rne_ge_of_int_le x _ hx1
  have hr2 := rne_le_of_le_int x _ hx2
  refine ⟨(rne x).toNat, (Int.toNat_of_nonneg (by omega)).symm, by omega, by omega, ?_⟩
  rw [show (((rne x).toNat : Nat) : ℚ) = (rne x : ℚ) from by exact_mod_cast Int.toNat_of_nonneg (by omega),
    ← sub_mul, abs_mul, abs_of_pos hs, mul_div_right_comm]
  refine mul_le_mul_of_nonneg_right (le_trans (rne_err x) ?_) hs.le
  rw [le_div_iff₀ (by norm_num)]
  push_cast at hx1
  linarith

/-- the reader on a `%g` layout of the digits of `D`.  The bounds are loose: they keep the number of
digits plus the exponent inside the ±400 window of `decimalToFP` (the caller has `P = 17` and
`D ≤ 10^17`). -/
theorem layout_value (p : Nat) (umin emax : Int) (P D : Nat) (q : Int) (hP : P ≤ 20) (hD : 0 < D)
    (hD18 : D < 10 ^ 18) (hq1 : -380 ≤ q) (hq2 : q ≤ 380) :
    decimalValue p umin emax (layoutG P (natDigits D) q) = roundBin p umin emax ((D : ℚ) * 10 ^ q) := by
  have hlen := natDigits_length_le D 18 (by norm_num) hD18
  unfold decimalValue
  rcases parse_layout P _ q (natDigits_isDigit D) (natDigits_ne_nil D) with h | ⟨hq0, hqP, h⟩
  · rw [h, dv_natDigits]
    simp only
    rw [decimalToFP_round p umin emax D q hD (by omega) (by omega), pow10r_eq]
  · -- written in full: the appended zeros are part of the mantissa
    rw [h, dv_natDigits]
    simp only
    have hM : D * 10 ^ q.toNat < 10 ^ 40 :=
      calc D * 10 ^ q.toNat ≤ 10 ^ 18 * 10 ^ 20 :=
            Nat.mul_le_mul hD18.le (Nat.pow_le_pow_right (by norm_num) (by omega))
        _ < 10 ^ 40 := by norm_num
    have hlenM := natDigits_length_le _ 40 (by norm_num) hM
    rw [decimalToFP_round p umin emax _ 0 (Nat.mul_pos hD (Nat.pow_pos (by norm_num))) (by omega) (by omega),
      pow10r_eq, zpow_zero, mul_one]
    push_cast
    rw [← zpow_natCast, Int.toNat_of_nonneg hq0]

theorem body17_value (a : ℚ) (hapos : 0 < a)
    (hden : (a / pow2 (max (ilog2 a - 52) (-1074))).den = 1) (hmax : a < pow2 1024) :
    decimalValue 53 (-1074) 1024 (gBody 17 a) = FP.fin a := by
  obtain ⟨m, u, ham, hm1, hm2, hu, hnorm, hlt, hge⟩ := double_repr a hapos hden hmax
  obtain ⟨he1, he2, he3, he4⟩ := decExp_spec a hge hlt
  obtain ⟨D0, hD0, hD1, hD2, herr⟩ := round17 a (decExp a) he1 he2
  unfold gBody
  rw [show decExp a - ((17 : Nat) : Int) + 1 = decExp a - 17 + 1 by norm_num, hD0, Int.toNat_natCast]
  obtain ⟨hs1, _, hs3⟩ := stripZeros_spec 400 D0 0
  generalize (stripZeros 400 D0 0).1 = D at hs1 hs3 ⊢
  generalize (stripZeros 400 D0 0).2 = z at hs1 ⊢
  rw [pow_zero, mul_one] at hs1
  have hDpos : 0 < D := hs3 (by omega)
  have hDle : D ≤ 10 ^ 17 := by
    have : D * 1 ≤ D * 10 ^ z := Nat.mul_le_mul_left D (Nat.one_le_pow _ _ (by norm_num))
    omega
  have hz17 : z ≤ 17 := by
    have h1 : 10 ^ z ≤ D * 10 ^ z := Nat.le_mul_of_pos_left _ hDpos
    exact (Nat.pow_le_pow_iff_right (by norm_num)).mp (by omega : 10 ^ z ≤ 10 ^ 17)
  rw [layout_value 53 (-1074) 1024 17 D _ (by norm_num) hDpos (by omega) (by omega) (by omega)]
  have hval : (D : ℚ) * (10 : ℚ) ^ (decExp a - 17 + 1 + (z : Int)) = (D0 : ℚ) * (10 : ℚ) ^ (decExp a - 16) := by
    rw [← hs1, Nat.cast_mul, Nat.cast_pow, Nat.cast_ofNat, mul_assoc, ← zpow_natCast, ← z10_add]
    congr 2; ring
  rw [hval]
  exact roundBin_near a _ m u ham hm1 hm2 hu hnorm hmax herr

/-- **17 significant digits identify a double.**  `strtod(sprintf("%.17g", x)) == x` for every
finite binary64 `x` (in the model of the two functions: exactly rounded conversions). -/
theorem strtod_printG17 (q : ℚ) (h : isDouble q = true) : strtodC (printG 17 q) = FP.fin q := by
  by_cases hq : q = 0
  · subst hq
    decide +kernel
  · unfold isDouble at h
    simp only [hq, decide_false, Bool.false_or, Bool.and_eq_true, decide_eq_true_eq] at h
    obtain ⟨hden, hmax⟩ := h
    rw [printG_eq 17 q hq]
    unfold strtodC
    by_cases hn : q < 0
    · simp only [hn, if_true] at hden hmax ⊢
      obtain ⟨⟨c0, r0, hb, hc0⟩, hch⟩ := gBody_shape 17 (-q)
      rw [(strtoGen_body 53 (-1074) 1024 _ c0 r0 hb hc0 hch).2, body17_value (-q) (by linarith) hden hmax]
      simp [negFP]
    · simp only [hn, if_false] at hden hmax ⊢
      have hpos : 0 < q := lt_of_le_of_ne (not_lt.mp hn) (Ne.symm hq)
      obtain ⟨⟨c0, r0, hb, hc0⟩, hch⟩ := gBody_shape 17 q
      rw [(strtoGen_body 53 (-1074) 1024 _ c0 r0 hb hc0 hch).1, body17_value q hpos hden hmax]

end TT
end Bufr
