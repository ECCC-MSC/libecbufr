import BufrModel.Decode
import BufrProofs.WriterFields
import BufrProofs.NodeFrame
/-
  BufrProofs.Codec — the Section 4 codec (`BufrModel.Codec`, `BufrModel.Decode`) on the wire.
-/
namespace Bufr
open Bufr

theorem valueNbitsF_spec : ∀ (f i v : Nat), 1 ≤ i →
    (∀ j, 1 ≤ j → j < i → 2^j - 1 ≤ v) → v < 2^(i+f) - 1 →
    i ≤ valueNbitsF f i v ∧ valueNbitsF f i v ≤ i + f ∧ v < 2^(valueNbitsF f i v) - 1 ∧
    (∀ j, 1 ≤ j → j < valueNbitsF f i v → 2^j - 1 ≤ v) := by
  intro f
  induction f with
  | zero => intro i v hi hlow hup; simp [valueNbitsF] at *; exact ⟨hup, hlow⟩
  | succ f ih =>
    intro i v hi hlow hup
    unfold valueNbitsF
    by_cases h : 2^i - 1 > v
    · rw [if_pos h]; exact ⟨Nat.le_refl _, by omega, h, hlow⟩
    · rw [if_neg h]
      have := ih (i+1) v (by omega) (by
        intro j hj1 hj2
        by_cases hj : j < i
        · exact hlow j hj1 hj
        · have : j = i := by omega
          subst this; omega) (by rw [show i + 1 + f = i + (f + 1) by omega]; exact hup)
      obtain ⟨a, b, c, d⟩ := this
      exact ⟨by omega, by omega, c, d⟩

/-- `bufr_value_nbits(v)`: the least width `k ≥ 1` in which `v` is not the all-ones pattern -/
theorem valueNbits_spec (v : Nat) (hv : v < 2^64 - 1) :
    1 ≤ valueNbits v ∧ valueNbits v ≤ 64 ∧ v < 2^(valueNbits v) - 1 ∧
    (∀ j, 1 ≤ j → j < valueNbits v → 2^j - 1 ≤ v) := by
  have h65 : v < 2^(1+64) - 1 := by
    have : (2:Nat)^64 ≤ 2^(1+64) := Nat.pow_le_pow_right (by omega) (by omega)
    omega
  obtain ⟨a, b, c, d⟩ := valueNbitsF_spec 64 1 v (by omega) (by intro j h1 h2; omega) h65
  unfold valueNbits
  refine ⟨a, ?_, c, d⟩
  by_contra hgt
  have h64 := d 64 (by omega) (by omega)
  omega

theorem valueNbits_le (d W : Nat) (hW1 : 1 ≤ W) (hW : W ≤ 64) (hd : d < 2^W - 1) :
    1 ≤ valueNbits d ∧ valueNbits d ≤ W ∧ d < 2^(valueNbits d) - 1 := by
  have : (2:Nat)^W ≤ 2^64 := Nat.pow_le_pow_right (by omega) hW
  obtain ⟨k1, _, k3, k4⟩ := valueNbits_spec d (by omega)
  refine ⟨k1, ?_, k3⟩
  by_contra hgt
  have := k4 W hW1 (by omega)
  omega

theorem some_pair_congr {α β} (a : α) {x y : β} (h : x = y) : some (a, x) = some (a, y) := by rw [h]

theorem skipN_view (r : R) (pre rest : List Bool) (hI : RInv r) (hb : r.bits = pre ++ rest) (k : Int)
    (hk : k = pre.length) : (skipN r k).bits = rest ∧ RInv (skipN r k) := by
  unfold skipN
  split
  · obtain rfl : pre = [] := List.length_eq_zero_iff.mp (by omega)
    exact ⟨hb, hI⟩
  · obtain ⟨r1, e, h1⟩ := skipBits_ok r k.toNat hI (by rw [hb, List.length_append]; omega)
    rw [e, h1.bits, hb, show k.toNat = pre.length by omega, List.drop_left]
    exact ⟨rfl, h1.inv⟩

theorem readIncs_view (k : Nat) (hk0 : 0 < k) (hk : k ≤ 64) : ∀ (incs : List Nat) (r : R) (rest : List Bool),
    RInv r → r.bits = incs.flatMap (bitsMSB k) ++ rest →
    ∃ r', readIncs r k incs.length = some (incs.map (· % 2^k), r') ∧ r'.bits = rest ∧ RInv r' := by
  intro incs
  induction incs with
  | nil => intro r rest hI hb; exact ⟨r, by simp [readIncs], by simpa using hb, hI⟩
  | cons v vs ih =>
    intro r rest hI hb
    rw [List.flatMap_cons, List.append_assoc] at hb
    obtain ⟨r1, e1, hb1, hI1⟩ := getbits_view r k v _ hI hk0 hk hb
    obtain ⟨r2, e2, hb2, hI2⟩ := ih r1 rest hI1 hb1
    refine ⟨r2, ?_, hb2, hI2⟩
    simp only [List.length_cons, readIncs, e1, e2, List.map_cons]
    simp

/-- the subsets a decode request keeps -/
def Range.slice {α} (g : Range) (l : List α) : List α :=
  if g.from_ > 0 then (l.drop (g.from_ - 1).toNat).take g.count else l

/-- a decode request the API accepts after clamping: everything, or `1 ≤ from ≤ to ≤ n` -/
def Range.OK (g : Range) : Prop := g.from_ ≤ 0 ∨ (1 ≤ g.from_ ∧ g.from_ ≤ g.to ∧ g.to ≤ g.nsub)

theorem Range.slice_full {α} (g : Range) (h : g.from_ ≤ 0) (l : List α) : g.slice l = l := by
  unfold Range.slice; rw [if_neg (by omega)]

theorem Range.count_full (g : Range) (h : g.from_ ≤ 0) : g.count = g.nsub := by
  unfold Range.count; rw [if_neg (by omega)]

theorem Range.slice_map {α β} (g : Range) (f : α → β) (l : List α) : g.slice (l.map f) = (g.slice l).map f := by
  unfold Range.slice; split <;> simp [List.map_take, List.map_drop]

theorem Range.slice_length {α} (g : Range) (hg : g.OK) (l : List α) (hl : l.length = g.nsub) :
    (g.slice l).length = g.count := by
  unfold Range.slice Range.count
  rcases hg with h | ⟨a, b, c⟩
  · rw [if_neg (by omega), if_neg (by omega)]; exact hl
  · rw [if_pos (by omega), if_pos (by omega), List.length_take, List.length_drop]; omega

theorem Range.slice_mem {α} (g : Range) (l : List α) (x : α) (h : x ∈ g.slice l) : x ∈ l := by
  unfold Range.slice at h
  split at h
  · exact List.mem_of_mem_drop (List.mem_of_mem_take h)
  · exact h

/-- the entries of a column fall into those in front of the request, those it keeps and those behind it; the two
outer lengths are the factors of the skips the column readers make -/
theorem Range.split {α} (g : Range) (hg : g.OK) (l : List α) (hl : l.length = g.nsub) :
    ∃ pre post, l = pre ++ g.slice l ++ post ∧
      (pre.length : Int) = (if g.from_ > 1 then g.from_ - 1 else 0) ∧
      (post.length : Int) = (if g.from_ > 0 then (g.nsub : Int) - g.to else 0) := by
  unfold Range.slice
  rcases hg with h | ⟨h1, h2, h3⟩
  · rw [if_neg (by omega), if_neg (by omega), if_neg (by omega)]
    exact ⟨[], [], by simp, rfl, rfl⟩
  · refine ⟨l.take (g.from_ - 1).toNat, (l.drop (g.from_ - 1).toNat).drop g.count, ?_, ?_, ?_⟩
    · rw [if_pos (by omega), List.append_assoc, List.take_append_drop, List.take_append_drop]
    · rw [List.length_take]; split <;> omega
    · rw [List.length_drop, List.length_drop, Range.count, if_pos (by omega), if_pos (by omega)]; omega

theorem skipN_if_view (c : Prop) [Decidable c] (k : Nat) (x : Int) (pre : List Nat) (r : R) (rest : List Bool)
    (hI : RInv r) (hb : r.bits = pre.flatMap (bitsMSB k) ++ rest) (hx : (pre.length : Int) = if c then x else 0) :
    (if c then skipN r (k * x) else r).bits = rest ∧ RInv (if c then skipN r (k * x) else r) := by
  by_cases hc : c
  · rw [if_pos hc] at hx ⊢
    exact skipN_view r _ rest hI hb _ (by rw [flatMap_bitsMSB_length, ← hx]; push_cast; rfl)
  · rw [if_neg hc] at hx ⊢
    obtain rfl : pre = [] := List.length_eq_zero_iff.mp (by omega)
    exact ⟨hb, hI⟩

/-- **skip, read, skip**: what the readers of listed columns do for a request `from..to` -- `k`-bit entries of
the subsets in front are skipped, those of the request are read, those behind are skipped -/
theorem readSlice_view (k : Nat) (hk0 : 0 < k) (hk : k ≤ 64) (g : Range) (hg : g.OK) (vals : List Nat)
    (hlen : vals.length = g.nsub) (r : R) (rest : List Bool) (hI : RInv r)
    (hb : r.bits = vals.flatMap (bitsMSB k) ++ rest) :
    ∃ r4, readIncs (if g.from_ > 1 then skipN r ((k : Int) * (g.from_ - 1)) else r) k g.count =
        some ((g.slice vals).map (· % 2^k), r4) ∧
      (if g.from_ > 0 then skipN r4 ((k : Int) * ((g.nsub : Int) - g.to)) else r4).bits = rest ∧
      RInv (if g.from_ > 0 then skipN r4 ((k : Int) * ((g.nsub : Int) - g.to)) else r4) := by
  obtain ⟨pre, post, hsplit, hpre, hpost⟩ := g.split hg vals hlen
  rw [hsplit, List.flatMap_append, List.flatMap_append, List.append_assoc, List.append_assoc] at hb
  obtain ⟨hb3, hI3⟩ := skipN_if_view _ k _ pre r _ hI hb hpre
  obtain ⟨r4, e4, hb4, hI4⟩ := readIncs_view k hk0 hk (g.slice vals) _ _ hI3 hb3
  rw [g.slice_length hg vals hlen] at e4
  exact ⟨r4, e4, skipN_if_view _ k _ post r4 rest hI4 hb4 hpost⟩

/-- **constant column** (`NBINC = 0`): every subset gets the local reference value, whatever it is -/
theorem getNumericCompressed_const (r : R) (cb : Node) (col : List Node) (g : Range) (r0 : Nat)
    (rest : List Bool) (hI : RInv r) (hnb : 1 ≤ cb.enc.nbits ∧ cb.enc.nbits ≤ 64)
    (hb : r.bits = bitsMSB cb.enc.nbits.toNat r0 ++ bitsMSB 6 0 ++ rest) :
    ∃ r', getNumericCompressed r (cb :: col) g =
        some (r', (cb :: col).map (fun n => setBitsValue n (r0 % 2^cb.enc.nbits.toNat))) ∧
      r'.bits = rest ∧ RInv r' := by
  rw [List.append_assoc] at hb
  obtain ⟨r1, e1, hb1, hI1⟩ := getbits_view r cb.enc.nbits.toNat r0 _ hI (by omega) (by omega) hb
  obtain ⟨r2, e2, hb2, hI2⟩ := getbits_view r1 6 0 _ hI1 (by omega) (by omega) hb1
  refine ⟨r2, ?_, hb2, hI2⟩
  unfold getNumericCompressed
  simp only [e1, e2]
  have h0 : (0 % 2^6 : Nat) = 0 := by decide
  have hpos : 0 ≤ cb.enc.nbits := by omega
  rw [h0]
  simp [hpos]

/-- **listed column** (`NBINC = k > 0`): subset `i` gets `R0 + increment_i`, all ones meaning
missing, for *any* local reference value and *any* increment width up to the element width; a
partial request `from..to` returns exactly that slice and leaves the cursor after the column -/
theorem getNumericCompressed_listed (r : R) (cb : Node) (col : List Node) (g : Range) (r0 k : Nat)
    (incs : List Nat) (rest : List Bool) (hI : RInv r) (hnb : 1 ≤ cb.enc.nbits ∧ cb.enc.nbits ≤ 64)
    (hk0 : 0 < k) (hk : (k : Int) ≤ cb.enc.nbits) (hk63 : k < 64) (hg : g.OK) (hlen : incs.length = g.nsub)
    (hb : r.bits = bitsMSB cb.enc.nbits.toNat r0 ++ bitsMSB 6 k ++ incs.flatMap (bitsMSB k) ++ rest) :
    ∃ r', getNumericCompressed r (cb :: col) g =
        some (r', zipWithNodes (fun n v => setBitsValue n
                    (if v = missingIvalue k then missingIvalue cb.enc.nbits else v + r0 % 2^cb.enc.nbits.toNat))
                  (cb :: col) ((g.slice incs).map (· % 2^k))) ∧
      r'.bits = rest ∧ RInv r' := by
  rw [List.append_assoc, List.append_assoc] at hb
  obtain ⟨r1, e1, hb1, hI1⟩ := getbits_view r cb.enc.nbits.toNat r0 _ hI (by omega) (by omega) hb
  obtain ⟨r2, e2, hb2, hI2⟩ := getbits_view r1 6 k _ hI1 (by omega) (by omega) hb1
  rw [Nat.mod_eq_of_lt (by omega : k < 2^6)] at e2
  obtain ⟨r4, e4, hb5, hI5⟩ := readSlice_view k hk0 (by omega) g hg incs hlen r2 rest hI2 hb2
  refine ⟨_, ?_, hb5, hI5⟩
  unfold getNumericCompressed
  simp only [e1, e2]
  have hng : ¬ (((k : Nat) : Int) > cb.enc.nbits) := by omega
  have hk0' : ¬ (k = 0) := by omega
  simp only [hng, and_false, if_false, hk0', e4]
  rfl

theorem listMin_spec (l : List Nat) (d : Nat) (hne : l ≠ []) :
    (∀ v ∈ l, listMin l d ≤ v) ∧ listMin l d ∈ l := by
  obtain ⟨x, xs, rfl⟩ := List.exists_cons_of_ne_nil hne
  have h : (x :: xs).min? = some (listMin (x :: xs) d) := by
    rw [List.min?_cons', listMin, List.headD_cons, List.foldl_cons, Nat.min_self]
  exact (List.min?_eq_some_iff.mp h).symm

theorem listMax_spec (l : List Nat) (d : Nat) (hne : l ≠ []) :
    (∀ v ∈ l, v ≤ listMax l d) ∧ listMax l d ∈ l := by
  obtain ⟨x, xs, rfl⟩ := List.exists_cons_of_ne_nil hne
  have h : (x :: xs).max? = some (listMax (x :: xs) d) := by
    rw [List.max?_cons', listMax, List.headD_cons, List.foldl_cons, Nat.max_self]
  exact (List.max?_eq_some_iff.mp h).symm

/-- **wire format of a compressed numeric column**: local reference value in the element width,
6-bit increment width, one increment per subset -/
theorem putNumericCompressed_bits (w : W) (hI : WInv w) (n0 : Node) (rest : List Node) :
    (putNumericCompressed w (n0 :: rest)).bits =
      w.bits ++ (bitsMSB n0.enc.nbits.toNat (encNumCol n0.enc.nbits ((n0 :: rest).map value2bits)).1 ++
        bitsMSB 6 (encNumCol n0.enc.nbits ((n0 :: rest).map value2bits)).2.1 ++
        (encNumCol n0.enc.nbits ((n0 :: rest).map value2bits)).2.2.flatMap
          (bitsMSB (encNumCol n0.enc.nbits ((n0 :: rest).map value2bits)).2.1)) ∧
    WInv (putNumericCompressed w (n0 :: rest)) := by
  rw [putNumericCompressed_fields]
  simpa only [fieldsNum, fieldBits_append, fieldBits_cons, fieldBits_nil, fieldBits_flatMap, List.append_nil,
    List.append_assoc] using putFields_bits (fieldsNum (n0 :: rest)) w hI

theorem missingIvalue_le (nb : Int) (h1 : 1 ≤ nb) (h2 : nb ≤ 64) : missingIvalue nb = 2^nb.toNat - 1 := by
  unfold missingIvalue
  rw [if_neg (by omega)]
  by_cases h : nb ≥ 64
  · rw [if_pos h, show nb.toNat = 64 by omega]
  · rw [if_neg h]

theorem missingIvalue_nat (k : Nat) (h1 : 1 ≤ k) (h2 : k < 64) : missingIvalue (k : Int) = 2^k - 1 :=
  missingIvalue_le k (by omega) (by omega)

/-- the raw value a decoder must assign to a subset of a listed column -/
def decInc (nb : Int) (r0 k inc : Nat) : Nat :=
  if inc % 2^k = missingIvalue k then missingIvalue nb else inc % 2^k + r0 % 2^nb.toNat

theorem decInc_increment (nb : Int) (lo k v : Nat) (hk1 : 1 ≤ k) (hk : k < 64) (hlo : lo < 2^nb.toNat)
    (hv : v ≠ missingIvalue nb → lo ≤ v ∧ v - lo < 2^k - 1) :
    decInc nb lo k (if v = missingIvalue nb then missingIvalue k else v - lo) = v := by
  have hmk := missingIvalue_nat k hk1 hk
  have hpk := Nat.two_pow_pos k
  unfold decInc
  rw [hmk, Nat.mod_eq_of_lt hlo]
  by_cases hvm : v = missingIvalue nb
  · rw [if_pos hvm, Nat.mod_eq_of_lt (by omega), if_pos rfl, hvm]
  · obtain ⟨h1, h2⟩ := hv hvm
    rw [if_neg hvm, Nat.mod_eq_of_lt (by omega), if_neg (by omega)]
    omega

/-- **the encoder's choice is sound**: the local reference value fits the element, the increment
width fits the 6-bit field and the element width, a constant column really is constant, and a listed
column gives every subset back its raw value (missing as missing) -/
theorem encNumCol_sound (nb : Int) (h1 : 1 ≤ nb) (h2 : nb ≤ 64) (vals : List Nat) (hne : vals ≠ [])
    (hv : ∀ v ∈ vals, v ≤ missingIvalue nb)
    (hspread : nb = 64 → ∀ a ∈ vals, ∀ b ∈ vals, a ≠ missingIvalue nb → b ≠ missingIvalue nb → a - b < 2^63 - 1) :
    (encNumCol nb vals).1 ≤ missingIvalue nb ∧
    ((encNumCol nb vals).2.1 : Int) ≤ nb ∧ (encNumCol nb vals).2.1 < 64 ∧
    ((encNumCol nb vals).2.1 = 0 → (encNumCol nb vals).2.2 = [] ∧ ∀ v ∈ vals, v = (encNumCol nb vals).1) ∧
    ((encNumCol nb vals).2.1 > 0 → (encNumCol nb vals).2.2.length = vals.length ∧
      (encNumCol nb vals).2.2.map (decInc nb (encNumCol nb vals).1 (encNumCol nb vals).2.1) = vals) := by
  have hm := missingIvalue_le nb h1 h2
  have hpow := Nat.two_pow_pos nb.toNat
  have hvlen : 0 < vals.length := List.length_pos_iff.mpr hne
  unfold encNumCol
  simp only
  generalize hpres : vals.filter (fun x => decide (x ≠ missingIvalue nb)) = present
  have hmem : ∀ v, v ∈ present ↔ v ∈ vals ∧ v ≠ missingIvalue nb := by intro v; rw [← hpres]; simp
  have hlen : present.length ≤ vals.length := hpres ▸ List.length_filter_le _ _
  by_cases hempty : present = []
  · -- every value missing
    have hall : ∀ v ∈ vals, v = missingIvalue nb := fun v hvm => by_contra fun hc => by
      simpa [hempty] using (hmem v).mpr ⟨hvm, hc⟩
    simp only [hempty, List.isEmpty_nil, if_true, List.length_nil, Nat.sub_zero, or_true]
    exact ⟨Nat.le_refl _, by omega, by omega, fun _ => ⟨trivial, hall⟩, fun h => absurd h (by omega)⟩
  · simp only [List.isEmpty_eq_false_iff.mpr hempty, Bool.false_eq_true, if_false]
    obtain ⟨hmin1, hmin2⟩ := listMin_spec present (missingIvalue nb) hempty
    obtain ⟨hmax1, hmax2⟩ := listMax_spec present (missingIvalue nb) hempty
    generalize listMin present (missingIvalue nb) = lo at *
    generalize listMax present (missingIvalue nb) = hi at *
    obtain ⟨hlov, hlom⟩ := (hmem lo).mp hmin2
    obtain ⟨hhiv, hhim⟩ := (hmem hi).mp hmax2
    have hlole := hv lo hlov
    have hhile := hv hi hhiv
    have hplen : 0 < present.length := List.length_pos_iff.mpr hempty
    split
    · next hc =>
      simp only
      -- announced as constant: no value is missing and the smallest is the largest
      obtain ⟨heq, hnone⟩ : lo = hi ∧ present.length = vals.length := by omega
      refine ⟨hlole, by omega, by omega, fun _ => ⟨trivial, fun v hvm => ?_⟩, fun h => absurd h (by omega)⟩
      have hvp : v ∈ present := (hmem v).mpr ⟨hvm,
        of_decide_eq_true (List.length_filter_eq_length_iff.mp (hpres ▸ hnone) v hvm)⟩
      have := hmin1 v hvp
      have := hmax1 v hvp
      omega
    · -- listed: the increments are taken from the smallest present value
      simp only
      have hd : hi - lo < 2^nb.toNat - 1 := by omega
      obtain ⟨k1, k2, k3⟩ := valueNbits_le (hi - lo) nb.toNat (by omega) (by omega) hd
      -- NBINC is a 6-bit field: a 64-bit element whose values lie 2^63 − 1 or more apart would need width 64,
      -- which is what `hspread` (the test `bufr_dataset_compressible` makes) rules out
      have hk64 : valueNbits (hi - lo) < 64 := by
        by_cases h64 : nb = 64
        · have := (valueNbits_le (hi - lo) 63 (by omega) (by omega) (hspread h64 hi hhiv lo hlov hhim hlom)).2.1
          omega
        · omega
      generalize valueNbits (hi - lo) = k at *
      refine ⟨hlole, by omega, hk64, fun h => absurd h (by omega), fun _ => ⟨by simp, ?_⟩⟩
      rw [List.map_map]
      conv => rhs; rw [← List.map_id vals]
      apply List.map_congr_left
      intro v hvm
      exact decInc_increment nb lo k v k1 hk64 (by omega) fun hvmiss => by
        have hvp := (hmem v).mpr ⟨hvm, hvmiss⟩
        have := hmin1 v hvp
        have := hmax1 v hvp
        omega

theorem zipWithNodes_map (f : Node → Nat → Node) (h : Nat → Nat) : ∀ (ns : List Node) (vs : List Nat),
    zipWithNodes f ns (vs.map h) = zipWithNodes (fun n v => f n (h v)) ns vs := by
  intro ns
  induction ns with
  | nil => intro vs; cases vs <;> simp [zipWithNodes]
  | cons n ns ih => intro vs; cases vs with
    | nil => simp [zipWithNodes]
    | cons v vs => simp [zipWithNodes, ih]

theorem zipWithNodes_const (f : Node → Nat → Node) (c : Nat) : ∀ (ns : List Node) (vs : List Nat),
    ns.length = vs.length → (∀ v ∈ vs, v = c) → zipWithNodes f ns vs = ns.map (fun n => f n c) := by
  intro ns
  induction ns with
  | nil => intro vs _ _; cases vs <;> simp [zipWithNodes]
  | cons n ns ih => intro vs hl hc; cases vs with
    | nil => simp at hl
    | cons v vs =>
      simp only [zipWithNodes, List.map_cons]
      rw [hc v (by simp), ih vs (by simpa using hl) (fun x hx => hc x (by simp [hx]))]

theorem zipWithNodes_congr (f g : Node → Nat → Node) : ∀ (ns : List Node) (vs : List Nat),
    (∀ n, ∀ v ∈ vs, f n v = g n v) → zipWithNodes f ns vs = zipWithNodes g ns vs := by
  intro ns
  induction ns with
  | nil => intro vs _; cases vs <;> simp [zipWithNodes]
  | cons n ns ih =>
    intro vs h
    cases vs with
    | nil => simp [zipWithNodes]
    | cons v vs =>
      simp only [zipWithNodes]
      rw [h n v (by simp), ih vs (fun m x hx => h m x (by simp [hx]))]

theorem zipWithNodes_map_map (f : Node → Nat → Node) (a : Node → Node) (b : Node → Nat) : ∀ (l : List Node),
    zipWithNodes f (l.map a) (l.map b) = l.map (fun x => f (a x) (b x)) := by
  intro l
  induction l with
  | nil => simp [zipWithNodes]
  | cons x l ih => simp only [List.map_cons, zipWithNodes, ih]

theorem zipWithStrs_map_map (f : Node → List Nat → Node) (a : Node → Node) (b : Node → List Nat) :
    ∀ (l : List Node), zipWithStrs f (l.map a) (l.map b) = l.map (fun x => f (a x) (b x)) := by
  intro l
  induction l with
  | nil => simp [zipWithStrs]
  | cons x l ih => simp only [List.map_cons, zipWithStrs, ih]

theorem zipWithStrs_congr (f g : Node → List Nat → Node) : ∀ (ns : List Node) (ss : List (List Nat)),
    (∀ n ∈ ns, ∀ s, f n s = g n s) → zipWithStrs f ns ss = zipWithStrs g ns ss := by
  intro ns
  induction ns with
  | nil => intro ss _; cases ss <;> simp [zipWithStrs]
  | cons n ns ih =>
    intro ss h
    cases ss with
    | nil => simp [zipWithStrs]
    | cons x xs =>
      simp only [zipWithStrs]
      rw [h n (by simp) x, ih xs (fun m hm => h m (by simp [hm]))]

theorem zipWithStrs_replicate (f : Node → List Nat → Node) (s : List Nat) : ∀ (ns : List Node),
    zipWithStrs f ns (List.replicate ns.length s) = ns.map (fun n => f n s) := by
  intro ns
  induction ns with
  | nil => simp [zipWithStrs]
  | cons n ns ih => simp only [List.length_cons, List.replicate_succ, zipWithStrs, List.map_cons, ih]

theorem putNumericCompressed_plan (w : W) (hI : WInv w) (n0 : Node) (rest : List Node)
    (h1 : 1 ≤ n0.enc.nbits) (h2 : n0.enc.nbits ≤ 64)
    (hv : ∀ n ∈ n0 :: rest, value2bits n ≤ missingIvalue n0.enc.nbits)
    (hspread : n0.enc.nbits = 64 → ∀ a ∈ n0 :: rest, ∀ b ∈ n0 :: rest,
      value2bits a ≠ missingIvalue n0.enc.nbits → value2bits b ≠ missingIvalue n0.enc.nbits →
      value2bits a - value2bits b < 2^63 - 1) :
    ∃ r0 k incs, (putNumericCompressed w (n0 :: rest)).bits =
        w.bits ++ (bitsMSB n0.enc.nbits.toNat r0 ++ bitsMSB 6 k ++ incs.flatMap (bitsMSB k)) ∧
      r0 % 2^n0.enc.nbits.toNat = r0 ∧ (k : Int) ≤ n0.enc.nbits ∧ k < 64 ∧
      (k = 0 → incs = [] ∧ ∀ v ∈ (n0 :: rest).map value2bits, v = r0) ∧
      (k > 0 → incs.length = ((n0 :: rest).map value2bits).length ∧
        incs.map (decInc n0.enc.nbits r0 k) = (n0 :: rest).map value2bits) := by
  obtain ⟨s1, s2, s3, s4, s5⟩ := encNumCol_sound n0.enc.nbits h1 h2 ((n0 :: rest).map value2bits) (by simp)
    (List.forall_mem_map.mpr hv)
    (fun h64 a ha b hb => by
      obtain ⟨na, ha1, rfl⟩ := List.mem_map.mp ha
      obtain ⟨nb, hb1, rfl⟩ := List.mem_map.mp hb
      exact hspread h64 na ha1 nb hb1)
  refine ⟨_, _, _, (putNumericCompressed_bits w hI n0 rest).1, Nat.mod_eq_of_lt ?_, s2, s3, s4, s5⟩
  have := missingIvalue_le n0.enc.nbits h1 h2
  have := Nat.two_pow_pos n0.enc.nbits.toNat
  omega

/-- **C02, numeric column.** Whatever raw values (missing included) the subsets hold for one
element, the column `bufr_put_numeric_compressed` writes is read back by
`bufr_get_numeric_compressed` as exactly those raw values, subset by subset — for the whole
dataset or for any slice `from..to` — and the cursor ends right after the column. -/
theorem numeric_column_roundtrip (w : W) (hI : WInv w) (n0 : Node) (rest : List Node)
    (h1 : 1 ≤ n0.enc.nbits) (h2 : n0.enc.nbits ≤ 64)
    (hv : ∀ n ∈ n0 :: rest, value2bits n ≤ missingIvalue n0.enc.nbits)
    (hspread : n0.enc.nbits = 64 → ∀ a ∈ n0 :: rest, ∀ b ∈ n0 :: rest,
      value2bits a ≠ missingIvalue n0.enc.nbits → value2bits b ≠ missingIvalue n0.enc.nbits →
      value2bits a - value2bits b < 2^63 - 1)
    (r : R) (hIr : RInv r) (tail : List Bool)
    (hb : w.bits ++ r.bits = (putNumericCompressed w (n0 :: rest)).bits ++ tail)
    (cb : Node) (col : List Node) (hnb : cb.enc.nbits = n0.enc.nbits)
    (g : Range) (hg : g.OK) (hn : g.nsub = (n0 :: rest).length) (hcol : (cb :: col).length = g.count) :
    ∃ r', getNumericCompressed r (cb :: col) g =
        some (r', zipWithNodes setBitsValue (cb :: col) (g.slice ((n0 :: rest).map value2bits))) ∧
      r'.bits = tail ∧ RInv r' := by
  obtain ⟨r0, k, incs, pb, hr0, s2, s3, s4, s5⟩ := putNumericCompressed_plan w hI n0 rest h1 h2 hv hspread
  rw [pb, List.append_assoc, ← hnb] at hb
  have hb' := List.append_cancel_left hb
  have hvlen : ((n0 :: rest).map value2bits).length = g.nsub := by rw [List.length_map, hn]
  rw [← hnb] at hr0 s2
  by_cases hk : k = 0
  · subst hk
    obtain ⟨rfl, hall⟩ := s4 rfl
    rw [List.flatMap_nil, List.append_nil] at hb'
    obtain ⟨r', e, hbr, hIr'⟩ := getNumericCompressed_const r cb col g r0 tail hIr (by omega) hb'
    refine ⟨r', ?_, hbr, hIr'⟩
    rw [e, hr0, zipWithNodes_const setBitsValue r0 _ _ (by rw [hcol, g.slice_length hg _ hvlen])
      (fun v hvm => hall v (g.slice_mem _ v hvm))]
  · obtain ⟨hilen, hdec⟩ := s5 (by omega)
    obtain ⟨r', e, hbr, hIr'⟩ := getNumericCompressed_listed r cb col g r0 k incs tail hIr (by omega)
      (by omega) s2 s3 hg (by omega) hb'
    refine ⟨r', ?_, hbr, hIr'⟩
    rw [e, zipWithNodes_map, ← hdec, Range.slice_map, zipWithNodes_map]
    simp only [decInc, hnb]

/-- the octets a character element occupies: the value left-justified, cut or blank-padded to the
element width -/
def paddedString (n : Node) : List Nat :=
  let len := (n.enc.nbits / 8).toNat
  (valueString n).take len ++ List.replicate (len - (valueString n).length) 32

theorem paddedString_length (n : Node) : (paddedString n).length = (n.enc.nbits / 8).toNat := by
  unfold paddedString
  simp only [List.length_append, List.length_take, List.length_replicate]
  omega

/-- what one node contributes to an uncompressed Section 4: nothing when it carries no data,
otherwise its associated field followed by its value in exactly the element width -/
def nodeBits (n : Node) : List Bool :=
  if n.flags.skipped then []
  else
    (if n.enc.afNbits > 0 ∧ n.afW > 0 then bitsMSB n.afW n.afBits else []) ++
    (match n.enc.type with
     | .ccitt => (paddedString n).flatMap (bitsMSB 8)
     | .ieee => bitsMSB (if n.enc.nbits = 64 then 64 else 32) (valueBits n)
     | .numeric | .chngRef | .codetable | .flagtable => bitsMSB n.enc.nbits.toNat (valueBits n)
     | _ => [])

/-- **wire format of one element** (`bufr_put_desc_value`) -/
theorem putDescValue_bits (w : W) (hI : WInv w) (n : Node) :
    (putDescValue w n).bits = w.bits ++ nodeBits n ∧ WInv (putDescValue w n) := by
  have hb : fieldBits (fieldsDesc n) = nodeBits n := by
    unfold fieldsDesc nodeBits
    split
    · rfl
    · rw [fieldBits_append, apply_ite fieldBits, fieldBits_cons, fieldBits_nil, List.append_nil]
      cases n.enc.type <;>
        simp only [fieldBits_padF, fieldBits_cons, fieldBits_nil, List.append_nil, paddedString]
  rw [putDescValue_fields, ← hb]
  exact putFields_bits _ w hI

/-- **wire format of an uncompressed Section 4**: the elements of subset 1 in expansion order, then
those of subset 2, … with no gaps -/
theorem encode_subsets_bits (ss : List (List Node)) (w : W) (hI : WInv w) :
    (ss.foldl (fun w s => s.foldl putDescValue w) w).bits = w.bits ++ ss.flatMap (fun s => s.flatMap nodeBits) ∧
    WInv (ss.foldl (fun w s => s.foldl putDescValue w) w) :=
  foldl_bits _ _ ss w hI fun s _ w hw =>
    foldl_bits putDescValue nodeBits s w hw fun n _ w hw => putDescValue_bits w hw n

theorem getstring_view : ∀ (cs : List Nat) (r : R) (rest : List Bool), RInv r → cs ≠ [] →
    r.bits = cs.flatMap (bitsMSB 8) ++ rest →
    ∃ r', r.getstring cs.length = (cs.map (· % 256), 0, r') ∧ r'.bits = rest ∧ RInv r' := by
  intro cs
  induction cs with
  | nil => intro r rest _ h; exact absurd rfl h
  | cons c cs ih =>
    intro r rest hI _ hb
    rw [List.flatMap_cons, List.append_assoc] at hb
    obtain ⟨r1, e1, hb1, hI1⟩ := getbits_view r 8 c _ hI (by omega) (by omega) hb
    have hand : ∀ x : Nat, x % 256 &&& 255 = x % 256 := by
      intro x
      have h255 : (255 : Nat) = 2^8 - 1 := by norm_num
      rw [h255, Nat.and_two_pow_sub_one_eq_mod]
      norm_num
    have e1' : r.getbits 8 = (c % 256, 0, r1) := by simpa using e1
    by_cases hcs : cs = []
    · subst hcs
      refine ⟨r1, ?_, by simpa using hb1, hI1⟩
      simp [R.getstring, e1', hand]
    · obtain ⟨r2, e2, hb2, hI2⟩ := ih r1 rest hI1 hcs hb1
      refine ⟨r2, ?_, hb2, hI2⟩
      have hlen : cs.length ≠ 0 := by
        intro h; exact hcs (List.length_eq_zero_iff.mp h)
      simp only [List.length_cons, R.getstring, e1', e2, List.map_cons, hand]
      simp [hlen]

theorem mkvalNode_enc (n : Node) : (mkvalNode n).enc = n.enc ∧ (mkvalNode n).desc = n.desc := by
  obtain ⟨v, w, b, h⟩ := mkvalNode_frame n
  rw [h]
  exact ⟨rfl, rfl⟩

/-- the value `bufr_get_desc_value` stores in a node of the decoder's own list when the pending bits
start with `nodeBits m` for an encoder node `m` of the same layout -/
def readBack (n : Node) (m : Node) : Node :=
  let n1 := mkvalNode n
  let n2 := if n1.enc.afNbits > 0 ∧ n1.afW > 0 then { n1 with afBits := m.afBits % 2^n1.afW } else n1
  match n2.enc.type with
  | .ccitt => { n2 with val := n2.val.setString (some ((paddedString m).map (· % 256))) (n2.enc.nbits / 8).toNat }
  | .ieee =>
    if n2.enc.nbits = 64 then { n2 with val := n2.val.setDouble (SF.ofDoubleBits (valueBits m % 2^64)) }
    else { n2 with val := n2.val.setFloat (SF.ofFloatBits (valueBits m % 2^n2.enc.nbits.toNat)) }
  | .numeric | .chngRef | .codetable | .flagtable =>
    { n2 with val := valueOfBits n2 n2.val (valueBits m % 2^n2.enc.nbits.toNat) }
  | _ => n2

/-- the layout facts the decoder's node must share with the encoder's -/
structure SameLayout (n m : Node) : Prop where
  enc : n.enc = m.enc
  skipped : n.flags.skipped = m.flags.skipped
  afW : (mkvalNode n).afW = m.afW
  hasVal : (mkvalNode n).val.isSome = true

/-- the widths the library supports for a data-bearing node -/
def widthOK (m : Node) : Prop :=
  (match m.enc.type with
   | .ccitt => 8 ≤ m.enc.nbits
   | .ieee => m.enc.nbits = 32 ∨ m.enc.nbits = 64
   | .numeric | .chngRef | .codetable | .flagtable => 1 ≤ m.enc.nbits ∧ m.enc.nbits ≤ 64
   | _ => True) ∧ m.afW ≤ 64

/-- **one element read back** (`bufr_get_desc_value`) for the element kinds whose width the
library supports (1..64 bits, whole octets for characters, 32/64 for IEEE) -/
theorem getDescValue_view (r : R) (hI : RInv r) (n m : Node) (rest : List Bool) (hl : SameLayout n m)
    (hns : m.flags.skipped = false) (hw : widthOK m) (hb : r.bits = nodeBits m ++ rest) :
    ∃ r', getDescValue r n = some (r', readBack n m) ∧ r'.bits = rest ∧ RInv r' := by
  obtain ⟨henc, hsk, hafw, hval⟩ := hl
  obtain ⟨hw, haf⟩ := hw
  unfold getDescValue
  rw [hsk, hns]
  simp only [Bool.false_eq_true, if_false, hval, Bool.not_true]
  unfold nodeBits at hb
  rw [hns] at hb
  simp only [Bool.false_eq_true, if_false] at hb
  have hmk : (mkvalNode n).enc = m.enc := (mkvalNode_enc n).1.trans henc
  have hafr : ∃ r1, (if (mkvalNode n).enc.afNbits > 0 ∧ (mkvalNode n).afW > 0 then
        (let (v, e, r') := r.getbits (mkvalNode n).afW
         if e < 0 then none else some (r', { mkvalNode n with afBits := v }))
      else some (r, mkvalNode n)) =
      some (r1, if (mkvalNode n).enc.afNbits > 0 ∧ (mkvalNode n).afW > 0 then
                  { mkvalNode n with afBits := m.afBits % 2^(mkvalNode n).afW } else mkvalNode n) ∧
      RInv r1 ∧
      r1.bits = (match m.enc.type with
        | .ccitt => (paddedString m).flatMap (bitsMSB 8)
        | .ieee => bitsMSB (if m.enc.nbits = 64 then 64 else 32) (valueBits m)
        | .numeric | .chngRef | .codetable | .flagtable => bitsMSB m.enc.nbits.toNat (valueBits m)
        | _ => []) ++ rest := by
    by_cases ha : (mkvalNode n).enc.afNbits > 0 ∧ (mkvalNode n).afW > 0
    · have ha' : m.enc.afNbits > 0 ∧ m.afW > 0 := by rw [← hmk, ← hafw]; exact ha
      rw [if_pos ha, if_pos ha]
      rw [if_pos ha', List.append_assoc] at hb
      rw [← hafw] at hb
      obtain ⟨r1, e1, hb1, hI1⟩ := getbits_view r _ _ _ hI ha.2 (by rw [hafw]; exact haf) hb
      refine ⟨r1, ?_, hI1, hb1⟩
      simp [e1]
    · have ha' : ¬ (m.enc.afNbits > 0 ∧ m.afW > 0) := by rw [← hmk, ← hafw]; exact ha
      rw [if_neg ha, if_neg ha]
      rw [if_neg ha'] at hb
      exact ⟨r, rfl, hI, by simpa using hb⟩
  obtain ⟨r1, e1, hI1, hb1⟩ := hafr
  rw [e1]
  simp only
  unfold readBack
  simp only
  generalize hn2 : (if (mkvalNode n).enc.afNbits > 0 ∧ (mkvalNode n).afW > 0 then
      { mkvalNode n with afBits := m.afBits % 2^(mkvalNode n).afW } else mkvalNode n) = n2
  have hn2enc : n2.enc = m.enc := by
    rw [← hn2]; split <;> simp [hmk]
  rw [hn2enc]
  cases ht : m.enc.type <;> simp only [ht] at hw hb1 ⊢
  case ccitt =>
    have hlen := paddedString_length m
    have hne : paddedString m ≠ [] := List.ne_nil_of_length_pos (by omega)
    obtain ⟨r2, e2, hb2, hI2⟩ := getstring_view (paddedString m) r1 rest hI1 hne hb1
    rw [hlen] at e2
    refine ⟨r2, ?_, hb2, hI2⟩
    simp [e2]
  case ieee =>
    rcases hw with h32 | h64
    · rw [h32] at hb1 ⊢
      obtain ⟨r2, e2, hb2, hI2⟩ := getbits_view r1 32 (valueBits m) rest hI1 (by omega) (by omega) (by simpa using hb1)
      exact ⟨r2, by simp [e2], hb2, hI2⟩
    · rw [h64] at hb1 ⊢
      obtain ⟨r2, e2, hb2, hI2⟩ := getbits_view r1 64 (valueBits m) rest hI1 (by omega) (by omega) (by simpa using hb1)
      exact ⟨r2, by simp [e2], hb2, hI2⟩
  case numeric | chngRef | codetable | flagtable =>
    obtain ⟨r2, e2, hb2, hI2⟩ := getbits_view r1 m.enc.nbits.toNat (valueBits m) rest hI1 (by omega) (by omega) hb1
    exact ⟨r2, by simp [e2], hb2, hI2⟩
  all_goals exact ⟨r1, rfl, by simpa using hb1, hI1⟩

theorem readStrs_view (k : Nat) (hk : 0 < k) : ∀ (strs : List (List Nat)) (r : R) (rest : List Bool),
    (∀ s ∈ strs, s.length = k) → RInv r → r.bits = strs.flatMap (fun s => s.flatMap (bitsMSB 8)) ++ rest →
    ∃ r', readStrs r k strs.length = some (strs.map (fun s => s.map (· % 256)), r') ∧ r'.bits = rest ∧ RInv r' := by
  intro strs
  induction strs with
  | nil => intro r rest _ hI hb; exact ⟨r, by simp [readStrs], by simpa using hb, hI⟩
  | cons s ss ih =>
    intro r rest hl hI hb
    rw [List.flatMap_cons, List.append_assoc] at hb
    have hsl := hl s (by simp)
    have hne : s ≠ [] := List.ne_nil_of_length_pos (by omega)
    obtain ⟨r1, e1, hb1, hI1⟩ := getstring_view s r _ hI hne hb
    rw [hsl] at e1
    obtain ⟨r2, e2, hb2, hI2⟩ := ih r1 rest (fun x hx => hl x (by simp [hx])) hI1 hb1
    refine ⟨r2, ?_, hb2, hI2⟩
    simp only [List.length_cons, readStrs, e1, e2, List.map_cons]
    simp

/-- **constant character column** (`NBINC = 0`): every subset gets the reference string -/
theorem getCcittCompressed_const (r : R) (cb : Node) (col : List Node) (g : Range) (cs : List Nat)
    (rest : List Bool) (hI : RInv r) (hlen : cs.length = (cb.enc.nbits / 8).toNat) (hpos : 0 < cs.length)
    (hb : r.bits = cs.flatMap (bitsMSB 8) ++ bitsMSB 6 0 ++ rest) :
    ∃ r', getCcittCompressed r (cb :: col) g =
        some (r', (cb :: col).map (fun n => { mkvalNode n with
          val := (mkvalNode cb).val.setString (some (cs.map (· % 256))) (cb.enc.nbits / 8).toNat })) ∧
      r'.bits = rest ∧ RInv r' := by
  rw [List.append_assoc] at hb
  have hne : cs ≠ [] := List.ne_nil_of_length_pos hpos
  obtain ⟨r1, e1, hb1, hI1⟩ := getstring_view cs r _ hI hne hb
  rw [hlen] at e1
  obtain ⟨r2, e2, hb2, hI2⟩ := getbits_view r1 6 0 _ hI1 (by omega) (by omega) hb1
  refine ⟨r2, ?_, hb2, hI2⟩
  unfold getCcittCompressed
  simp only [e1, e2]
  simp

/-- **listed character column** (`NBINC = octets`): subset `i` gets string `i`, whatever the
reference string is -/
theorem getCcittCompressed_listed (r : R) (cb : Node) (col : List Node) (g : Range) (r0 : List Nat) (k : Nat)
    (strs : List (List Nat)) (rest : List Bool) (hI : RInv r)
    (hlen : r0.length = (cb.enc.nbits / 8).toNat) (hpos : 0 < r0.length)
    (hk0 : 0 < k) (hk : k < 64) (hk63 : k = 63 → cb.enc.nbits = 63 * 8)
    (hfull : g.from_ ≤ 0) (hn : strs.length = g.nsub) (hsl : ∀ s ∈ strs, s.length = k)
    (hb : r.bits = r0.flatMap (bitsMSB 8) ++ bitsMSB 6 k ++ strs.flatMap (fun s => s.flatMap (bitsMSB 8)) ++ rest) :
    ∃ r', getCcittCompressed r (cb :: col) g =
        some (r', zipWithStrs (fun n s => { mkvalNode n with
          val := (mkvalNode n).val.setString (some s) ((mkvalNode n).enc.nbits / 8).toNat })
          (cb :: col) (strs.map (fun s => s.map (· % 256)))) ∧
      r'.bits = rest ∧ RInv r' := by
  rw [List.append_assoc, List.append_assoc] at hb
  have hne : r0 ≠ [] := List.ne_nil_of_length_pos hpos
  obtain ⟨r1, e1, hb1, hI1⟩ := getstring_view r0 r _ hI hne hb
  rw [hlen] at e1
  obtain ⟨r2, e2, hb2, hI2⟩ := getbits_view r1 6 k _ hI1 (by omega) (by omega) hb1
  have hk6 : k % 2^6 = k := Nat.mod_eq_of_lt (by omega)
  rw [hk6] at e2
  obtain ⟨r3, e3, hb3, hI3⟩ := readStrs_view k hk0 strs r2 rest hsl hI2 hb2
  refine ⟨r3, ?_, hb3, hI3⟩
  unfold getCcittCompressed
  simp only [e1, e2]
  -- NBINC = 63 (all ones in 6 bits) says "every value missing" unless the element really has 63 octets
  have h63 : ¬ (k = 63 ∧ cb.enc.nbits ≠ 63 * 8) := by
    intro ⟨a, b⟩; exact b (hk63 a)
  have hk0' : ¬ k = 0 := by omega
  have hf1 : ¬ g.from_ > 1 := by omega
  have hf0 : ¬ g.from_ > 0 := by omega
  have hcount : g.count = strs.length := by unfold Range.count; rw [if_neg hf0, hn]
  simp only [h63, if_false, hk0', hf1, hf0, hcount, e3]
  simp

theorem getAfCompressed_const (r : R) (cb : Node) (col : List Node) (g : Range) (r0 : Nat) (rest : List Bool)
    (hI : RInv r) (haf : cb.enc.afNbits ≠ 0) (hw : 1 ≤ (mkvalNode cb).afW ∧ (mkvalNode cb).afW ≤ 64)
    (hb : r.bits = bitsMSB (mkvalNode cb).afW r0 ++ bitsMSB 6 0 ++ rest) :
    ∃ r', getAfCompressed r (cb :: col) g =
        some (r', (cb :: col).map (fun n => { mkvalNode n with afBits := r0 % 2^(mkvalNode cb).afW })) ∧
      r'.bits = rest ∧ RInv r' := by
  rw [List.append_assoc] at hb
  obtain ⟨r1, e1, hb1, hI1⟩ := getbits_view r _ r0 _ hI (by omega) (by omega) hb
  obtain ⟨r2, e2, hb2, hI2⟩ := getbits_view r1 6 0 _ hI1 (by omega) (by omega) hb1
  refine ⟨r2, ?_, hb2, hI2⟩
  unfold getAfCompressed
  simp only [haf, if_false, e1, e2]
  simp

/-- **associated-field column**, listed: subset `i` gets `R0 + increment_i` (no missing pattern); a request
`from..to` gets that slice -/
theorem getAfCompressed_listed (r : R) (cb : Node) (col : List Node) (g : Range) (r0 k : Nat) (incs : List Nat)
    (rest : List Bool) (hI : RInv r) (haf : cb.enc.afNbits ≠ 0) (hw : 1 ≤ (mkvalNode cb).afW ∧ (mkvalNode cb).afW ≤ 64)
    (hk0 : 0 < k) (hk : k < 64) (hg : g.OK) (hn : incs.length = g.nsub)
    (hb : r.bits = bitsMSB (mkvalNode cb).afW r0 ++ bitsMSB 6 k ++ incs.flatMap (bitsMSB k) ++ rest) :
    ∃ r', getAfCompressed r (cb :: col) g =
        some (r', zipWithNodes (fun n v => { mkvalNode n with afBits := v + r0 % 2^(mkvalNode cb).afW })
          (cb :: col) ((g.slice incs).map (· % 2^k))) ∧
      r'.bits = rest ∧ RInv r' := by
  rw [List.append_assoc, List.append_assoc] at hb
  obtain ⟨r1, e1, hb1, hI1⟩ := getbits_view r _ r0 _ hI (by omega) (by omega) hb
  obtain ⟨r2, e2, hb2, hI2⟩ := getbits_view r1 6 k _ hI1 (by omega) (by omega) hb1
  rw [Nat.mod_eq_of_lt (by omega : k < 2^6)] at e2
  obtain ⟨r4, e4, hb5, hI5⟩ := readSlice_view k hk0 (by omega) g hg incs hn r2 rest hI2 hb2
  refine ⟨_, ?_, hb5, hI5⟩
  unfold getAfCompressed
  have hk0' : ¬ k = 0 := by omega
  simp only [haf, if_false, e1, e2, hk0', e4]
  rfl

/-- the plan of `bufr_put_af_compressed` -/
def encAfCol (vals : List Nat) : Nat × Nat × List Nat :=
  let umin := listMin vals 0
  let umax := listMax vals 0
  if umin = umax then (umin, 0, []) else (umin, valueNbits (umax - umin), vals.map (· - umin))

theorem putAfCompressed_bits (w : W) (hI : WInv w) (n0 : Node) (rest : List Node)
    (haf : ¬ (n0.enc.afNbits = 0 ∨ n0.afW = 0)) (hall : ∀ n ∈ n0 :: rest, n.afW > 0) :
    (putAfCompressed w (n0 :: rest)).bits =
      w.bits ++ (bitsMSB n0.afW (encAfCol ((n0 :: rest).map (·.afBits))).1 ++
        bitsMSB 6 (encAfCol ((n0 :: rest).map (·.afBits))).2.1 ++
        (encAfCol ((n0 :: rest).map (·.afBits))).2.2.flatMap (bitsMSB (encAfCol ((n0 :: rest).map (·.afBits))).2.1)) ∧
    WInv (putAfCompressed w (n0 :: rest)) := by
  have hb := putFields_bits (fieldsAf (n0 :: rest)) w hI
  rw [← putAfCompressed_fields] at hb
  unfold fieldsAf at hb
  unfold encAfCol
  simp only [haf, if_false] at hb ⊢
  by_cases heq : listMin ((n0 :: rest).map (·.afBits)) 0 = listMax ((n0 :: rest).map (·.afBits)) 0
  · simpa only [if_pos heq, fieldBits_cons, fieldBits_nil, List.flatMap_nil, List.append_nil, List.append_assoc] using hb
  · have hfl : ∀ u k : Nat, ((n0 :: rest).flatMap fun n => if n.afW > 0 then [(n.afBits - u, k)] else []) =
        (n0 :: rest).flatMap fun n => [(n.afBits - u, k)] := fun u k =>
      congrArg List.flatten (List.map_congr_left fun n hn => if_pos (hall n hn))
    simpa only [if_neg heq, hfl, fieldBits_append, fieldBits_cons, fieldBits_nil, fieldBits_flatMap, List.flatMap_map,
      List.append_nil, List.append_assoc] using hb

/-- **associated-field column round trip**: every subset of the request gets its own associated field back -/
theorem af_column_roundtrip (w : W) (hI : WInv w) (n0 : Node) (rest : List Node)
    (haf : ¬ (n0.enc.afNbits = 0 ∨ n0.afW = 0)) (hall : ∀ n ∈ n0 :: rest, n.afW > 0)
    (hw : n0.afW ≤ 62) (hv : ∀ n ∈ n0 :: rest, n.afBits < 2^n0.afW)
    (r : R) (hIr : RInv r) (tail : List Bool)
    (hb : w.bits ++ r.bits = (putAfCompressed w (n0 :: rest)).bits ++ tail)
    (cb : Node) (col : List Node) (hcaf : cb.enc.afNbits ≠ 0) (hcw : (mkvalNode cb).afW = n0.afW)
    (g : Range) (hg : g.OK) (hn : g.nsub = (n0 :: rest).length) (hcol : (cb :: col).length = g.count) :
    ∃ r', getAfCompressed r (cb :: col) g =
        some (r', zipWithNodes (fun n v => { mkvalNode n with afBits := v }) (cb :: col)
          (g.slice ((n0 :: rest).map (·.afBits)))) ∧
      r'.bits = tail ∧ RInv r' := by
  obtain ⟨pb, _⟩ := putAfCompressed_bits w hI n0 rest haf hall
  rw [pb, List.append_assoc] at hb
  have hb' := List.append_cancel_left hb
  generalize hvals : (n0 :: rest).map (·.afBits) = vals at *
  have hne : vals ≠ [] := by rw [← hvals]; simp
  have hvv : ∀ v ∈ vals, v < 2^n0.afW := by rw [← hvals]; exact List.forall_mem_map.mpr hv
  obtain ⟨hmin1, hmin2⟩ := listMin_spec vals 0 hne
  obtain ⟨hmax1, hmax2⟩ := listMax_spec vals 0 hne
  have hminlt := hvv _ hmin2
  have hmaxlt := hvv _ hmax2
  have hvlen : vals.length = g.nsub := by rw [← hvals, hn]; simp
  have hbound : ∀ v ∈ g.slice vals, listMin vals 0 ≤ v ∧ v ≤ listMax vals 0 :=
    fun v hvm => ⟨hmin1 v (g.slice_mem _ v hvm), hmax1 v (g.slice_mem _ v hvm)⟩
  have hafw1 : 1 ≤ n0.afW := by
    have := hall n0 (by simp); omega
  have hp62 : (2:Nat)^n0.afW ≤ 2^62 := Nat.pow_le_pow_right (by omega) hw
  unfold encAfCol at hb'
  simp only at hb'
  rw [← hcw] at hb'
  by_cases heq : listMin vals 0 = listMax vals 0
  · rw [if_pos heq] at hb'
    simp only [List.flatMap_nil, List.append_nil] at hb'
    obtain ⟨r', e, hbr, hIr'⟩ := getAfCompressed_const r cb col g (listMin vals 0) tail hIr hcaf
      (by rw [hcw]; omega) hb'
    refine ⟨r', ?_, hbr, hIr'⟩
    rw [e, hcw, Nat.mod_eq_of_lt hminlt, zipWithNodes_const _ (listMin vals 0) _ _
      (by rw [hcol, g.slice_length hg _ hvlen]) (fun v hvm => by have := hbound v hvm; omega)]
  · rw [if_neg heq] at hb'
    -- fields of at most 62 bits lie less than 2^63 − 1 apart, so NBINC ≤ 63 fits its 6 bits (for fields of 63
    -- or 64 bits `bufr_dataset_compressible` tests the spread itself; they are left out here)
    obtain ⟨k1, k2, k3⟩ := valueNbits_le (listMax vals 0 - listMin vals 0) 63 (by omega) (by omega)
      (by have : (2:Nat)^62 < 2^63 - 1 := by decide
          omega)
    generalize hk : valueNbits (listMax vals 0 - listMin vals 0) = k at *
    obtain ⟨r', e, hbr, hIr'⟩ := getAfCompressed_listed r cb col g (listMin vals 0) k
      (vals.map (· - listMin vals 0)) tail hIr hcaf (by rw [hcw]; omega) (by omega) (by omega) hg
      (by simp [hvlen]) hb'
    refine ⟨r', ?_, hbr, hIr'⟩
    rw [e, hcw, Nat.mod_eq_of_lt hminlt, Range.slice_map, zipWithNodes_map, zipWithNodes_map]
    apply some_pair_congr
    apply zipWithNodes_congr
    intro n v hvm
    have := hbound v hvm
    -- (v - umin) % 2^k + umin = v
    simp only [Nat.mod_eq_of_lt (show v - listMin vals 0 < 2^k by omega), Nat.sub_add_cancel this.1]

theorem reverse_dropWhile_split {α} (p : α → Bool) (l : List α) :
    l = (l.reverse.dropWhile p).reverse ++ (l.reverse.takeWhile p).reverse := by
  have := List.takeWhile_append_dropWhile (p := p) (l := l.reverse)
  have h2 := congrArg List.reverse this
  rw [List.reverse_append, List.reverse_reverse] at h2
  exact h2.symm

theorem takeWhile_eq_replicate (l : List Nat) : l.takeWhile (· = 32) = List.replicate (l.takeWhile (· = 32)).length 32 := by
  apply List.eq_replicate_iff.mpr
  refine ⟨rfl, ?_⟩
  intro b hb
  induction l with
  | nil => simp at hb
  | cons a l ih =>
    rw [List.takeWhile_cons] at hb
    by_cases h : a = 32
    · simp only [h, decide_true] at hb
      rcases List.mem_cons.mp hb with hb | hb
      · exact hb
      · exact ih hb
    · simp [h] at hb

/-- the significant part of a character value: cut to the field, trailing blanks dropped -/
def trimStr (s : List Nat) (enclen : Nat) : List Nat := ((s.take enclen).reverse.dropWhile (· = 32)).reverse

theorem padded_of_trim (s : List Nat) (enclen : Nat) :
    s.take enclen ++ List.replicate (enclen - s.length) 32 =
      trimStr s enclen ++ List.replicate (enclen - (trimStr s enclen).length) 32 := by
  have hsplit := reverse_dropWhile_split (· = 32) (s.take enclen)
  have hrep := takeWhile_eq_replicate (s.take enclen).reverse
  generalize hj : ((s.take enclen).reverse.takeWhile (· = 32)).length = j at hrep
  have hlen : (s.take enclen).length = (trimStr s enclen).length + j := by
    conv => lhs; rw [hsplit]
    simp [trimStr, hj]
  unfold trimStr at hlen ⊢
  conv => lhs; rw [hsplit, hrep]
  rw [List.reverse_replicate, List.append_assoc, List.replicate_append_replicate]
  congr 2
  rw [List.length_take] at hlen
  omega

theorem strncmpNe_eq : ∀ (a b : List Nat), a.length = b.length → (∀ c ∈ a, c ≠ 0) → strncmpNe a b = false → a = b := by
  intro a
  induction a with
  | nil => intro b h _ _; cases b with
    | nil => rfl
    | cons _ _ => simp at h
  | cons x xs ih =>
    intro b h hz hn
    cases b with
    | nil => simp at h
    | cons y ys =>
      unfold strncmpNe at hn
      by_cases hxy : x ≠ y
      · simp [hxy] at hn
      · have hxy' : x = y := by simpa using hxy
        have hx0 : x ≠ 0 := hz x (by simp)
        simp only [hxy, if_false, hx0] at hn
        rw [hxy', ih ys (by simpa using h) (fun c hc => hz c (by simp [hc])) hn]

theorem padded_eq_of_not_differs (a b : List Nat) (enclen : Nat) (hz : ∀ c ∈ trimStr a enclen, c ≠ 0)
    (h : strDiffers a b enclen = false) :
    a.take enclen ++ List.replicate (enclen - a.length) 32 = b.take enclen ++ List.replicate (enclen - b.length) 32 := by
  unfold strDiffers at h
  simp only [Bool.or_eq_false_iff, decide_eq_false_iff_not, ne_eq, not_not] at h
  have heq : trimStr a enclen = trimStr b enclen := strncmpNe_eq _ _ (by simpa [trimStr] using h.1) hz (by simpa [trimStr] using h.2)
  rw [padded_of_trim a, padded_of_trim b, heq]

/-- does the encoder list the strings of this column one by one -/
def ccittDiffers (n0 : Node) (col : List Node) : Bool :=
  col.any fun n => strDiffers (valueString n0) (valueString n) (n.enc.nbits / 8).toNat

theorem putCcittCompressed_bits (w : W) (hI : WInv w) (n0 : Node) (rest : List Node) :
    (putCcittCompressed w (n0 :: rest)).bits =
      w.bits ++ (if ccittDiffers n0 (n0 :: rest) then
        (strPad none (n0.enc.nbits / 8).toNat).flatMap (bitsMSB 8) ++ bitsMSB 6 (n0.enc.nbits / 8).toNat ++
          (n0 :: rest).flatMap (fun n => (paddedString n).flatMap (bitsMSB 8))
        else (paddedString n0).flatMap (bitsMSB 8) ++ bitsMSB 6 0) ∧
    WInv (putCcittCompressed w (n0 :: rest)) := by
  have hb := putFields_bits (fieldsCcitt (n0 :: rest)) w hI
  rw [← putCcittCompressed_fields] at hb
  unfold fieldsCcitt at hb
  unfold ccittDiffers
  cases hd : (n0 :: rest).any fun n => strDiffers (valueString n0) (valueString n) (n.enc.nbits / 8).toNat
  · simpa only [hd, Bool.not_false, if_true, Bool.false_eq_true, if_false, fieldBits_append, fieldBits_padF, fieldBits_cons,
      fieldBits_nil, List.append_nil, paddedString] using hb
  · simpa only [hd, Bool.not_true, Bool.false_eq_true, if_false, if_true, fieldBits_append, fieldBits_bytesF, fieldBits_padF,
      fieldBits_flatMap, fieldBits_cons, fieldBits_nil, List.append_nil, List.append_assoc, paddedString] using hb

/-- **character column round trip** (whole dataset): whether the encoder lists the strings or
announces one for all, every subset gets back the octets of its own value, blank padded to the
element width -/
theorem ccitt_column_roundtrip (w : W) (hI : WInv w) (n0 : Node) (rest : List Node)
    (h8 : 8 ≤ n0.enc.nbits) (hm8 : n0.enc.nbits % 8 = 0) (h63 : n0.enc.nbits / 8 ≤ 63)
    (hu : ∀ n ∈ n0 :: rest, n.enc.nbits = n0.enc.nbits)
    (hz : ∀ c ∈ trimStr (valueString n0) (n0.enc.nbits / 8).toNat, c ≠ 0)
    (r : R) (hIr : RInv r) (tail : List Bool)
    (hb : w.bits ++ r.bits = (putCcittCompressed w (n0 :: rest)).bits ++ tail)
    (cb : Node) (col : List Node) (hcnb : cb.enc.nbits = n0.enc.nbits)
    (hcu : ∀ n ∈ cb :: col, (mkvalNode n).val = (mkvalNode cb).val ∧ (mkvalNode n).enc.nbits = cb.enc.nbits)
    (g : Range) (hfull : g.from_ ≤ 0) (hn : g.nsub = (n0 :: rest).length) (hcol : (cb :: col).length = g.nsub) :
    ∃ r', getCcittCompressed r (cb :: col) g =
        some (r', zipWithStrs (fun n s => { mkvalNode n with
            val := (mkvalNode cb).val.setString (some s) (cb.enc.nbits / 8).toNat })
          (cb :: col) ((n0 :: rest).map (fun n => (paddedString n).map (· % 256)))) ∧
      r'.bits = tail ∧ RInv r' := by
  obtain ⟨pb, _⟩ := putCcittCompressed_bits w hI n0 rest
  rw [pb, List.append_assoc] at hb
  have hb' := List.append_cancel_left hb
  have hlen0 := paddedString_length n0
  have hlenpos : 0 < (n0.enc.nbits / 8).toNat := by omega
  by_cases hd : ccittDiffers n0 (n0 :: rest) = true
  · rw [if_pos hd] at hb'
    have hr0len : (strPad none (n0.enc.nbits / 8).toNat).length = (cb.enc.nbits / 8).toNat := by
      rw [hcnb]; unfold strPad; simp
    have hsl : ∀ s ∈ (n0 :: rest).map paddedString, s.length = (n0.enc.nbits / 8).toNat := by
      intro s hs
      obtain ⟨n, hn1, rfl⟩ := List.mem_map.mp hs
      rw [paddedString_length n, hu n hn1]
    have hflat : (n0 :: rest).flatMap (fun n => (paddedString n).flatMap (bitsMSB 8)) =
        ((n0 :: rest).map paddedString).flatMap (fun s => s.flatMap (bitsMSB 8)) := by
      rw [List.flatMap_map]
    rw [hflat] at hb'
    obtain ⟨r', e, hbr, hIr'⟩ := getCcittCompressed_listed r cb col g (strPad none (n0.enc.nbits / 8).toNat)
      (n0.enc.nbits / 8).toNat ((n0 :: rest).map paddedString) tail hIr hr0len (by rw [hr0len, hcnb]; exact hlenpos)
      hlenpos (by omega) (by intro h; rw [hcnb]; omega) hfull (by simp [hn]) hsl hb'
    refine ⟨r', ?_, hbr, hIr'⟩
    rw [e, List.map_map]
    apply some_pair_congr
    -- every decoder copy has the same fresh value and width
    exact zipWithStrs_congr _ _ _ _ fun n hn s => by rw [(hcu n hn).1, (hcu n hn).2]
  · have hd' : ccittDiffers n0 (n0 :: rest) = false := by simpa using hd
    rw [if_neg hd] at hb'
    obtain ⟨r', e, hbr, hIr'⟩ := getCcittCompressed_const r cb col g (paddedString n0) tail hIr
      (by rw [hlen0, hcnb]) (by rw [hlen0]; exact hlenpos) hb'
    refine ⟨r', ?_, hbr, hIr'⟩
    rw [e]
    apply some_pair_congr
    -- all strings are written as the octets of the first
    have hall : ∀ n ∈ n0 :: rest, paddedString n = paddedString n0 := by
      intro n hn1
      unfold ccittDiffers at hd'
      rw [List.any_eq_false] at hd'
      have := hd' n hn1
      have hnd : strDiffers (valueString n0) (valueString n) (n0.enc.nbits / 8).toNat = false := by
        rw [hu n hn1] at this; simpa using this
      unfold paddedString
      rw [hu n hn1]
      exact (padded_eq_of_not_differs _ _ _ hz hnd).symm
    have hlist : (n0 :: rest).map (fun n => (paddedString n).map (· % 256)) =
        List.replicate (n0 :: rest).length ((paddedString n0).map (· % 256)) := by
      apply List.eq_replicate_iff.mpr
      refine ⟨by simp, ?_⟩
      intro x hx
      obtain ⟨n, hn1, rfl⟩ := List.mem_map.mp hx
      rw [hall n hn1]
    rw [hlist, ← hn, ← hcol, zipWithStrs_replicate]

/-- the value a compressed IEEE column gives a node (`setv` of `getIeeeCompressed`) -/
def ieeeSetv (n : Node) (v : Nat) : Node :=
  let m := mkvalNode n
  if m.enc.nbits = 64 then { m with val := m.val.setDouble (SF.ofDoubleBits v) }
  else { m with val := m.val.setFloat (SF.ofFloatBits v) }

/-- **constant IEEE column** (`NBINC = 0`): every subset of the request gets the value written once, and nothing
is skipped whatever the request — the reader stands right behind the 6 bits of NBINC -/
theorem getIeeeCompressed_const (r : R) (cb : Node) (col : List Node) (g : Range) (v0 : Nat)
    (rest : List Bool) (hI : RInv r) (hnb : 1 ≤ cb.enc.nbits ∧ cb.enc.nbits ≤ 64)
    (hb : r.bits = bitsMSB cb.enc.nbits.toNat v0 ++ bitsMSB 6 0 ++ rest) :
    ∃ r', getIeeeCompressed r (cb :: col) g =
        some (r', (cb :: col).map (fun n => ieeeSetv n (v0 % 2^cb.enc.nbits.toNat))) ∧
      r'.bits = rest ∧ RInv r' := by
  rw [List.append_assoc] at hb
  obtain ⟨r1, e1, hb1, hI1⟩ := getbits_view r cb.enc.nbits.toNat v0 _ hI (by omega) (by omega) hb
  obtain ⟨r2, e2, hb2, hI2⟩ := getbits_view r1 6 0 _ hI1 (by omega) (by omega) hb1
  refine ⟨r2, ?_, hb2, hI2⟩
  unfold getIeeeCompressed
  simp only [e1, e2]
  have h0 : (0 % 2^6 : Nat) = 0 := by decide
  rw [h0]
  simp [ieeeSetv]

/-- **listed IEEE column** (`NBINC > 0`): the values follow in full, one per subset; a request `from..to` gets
exactly that slice and the reader ends right behind the column -/
theorem getIeeeCompressed_listed (r : R) (cb : Node) (col : List Node) (g : Range) (v0 k : Nat)
    (vals : List Nat) (rest : List Bool) (hI : RInv r) (hnb : 1 ≤ cb.enc.nbits ∧ cb.enc.nbits ≤ 64)
    (hk0 : 0 < k) (hk63 : k < 64) (hg : g.OK) (hlen : vals.length = g.nsub)
    (hb : r.bits = bitsMSB cb.enc.nbits.toNat v0 ++ bitsMSB 6 k ++ vals.flatMap (bitsMSB cb.enc.nbits.toNat) ++ rest) :
    ∃ r', getIeeeCompressed r (cb :: col) g =
        some (r', zipWithNodes ieeeSetv (cb :: col) ((g.slice vals).map (· % 2^cb.enc.nbits.toNat))) ∧
      r'.bits = rest ∧ RInv r' := by
  generalize hw : cb.enc.nbits.toNat = w at hb ⊢
  rw [List.append_assoc, List.append_assoc] at hb
  obtain ⟨r1, e1, hb1, hI1⟩ := getbits_view r w v0 _ hI (by omega) (by omega) hb
  obtain ⟨r2, e2, hb2, hI2⟩ := getbits_view r1 6 k _ hI1 (by omega) (by omega) hb1
  rw [Nat.mod_eq_of_lt (by omega : k < 2^6)] at e2
  obtain ⟨r4, e4, hb5, hI5⟩ := readSlice_view w (by omega) (by omega) g hg vals hlen r2 rest hI2 hb2
  refine ⟨_, ?_, hb5, hI5⟩
  unfold getIeeeCompressed
  have hk0' : ¬ (k = 0) := by omega
  simp only [hw, e1, e2, hk0', if_false, e4]
  rfl

theorem putIeeeCompressed_bits (w : W) (hI : WInv w) (n0 : Node) (rest : List Node) (nb : Nat)
    (hnb : nb = if n0.enc.nbits = 64 then 64 else 32) :
    (putIeeeCompressed w (n0 :: rest)).bits = w.bits ++
      (if ((n0 :: rest).map valueBits).all (· = valueBits n0) then bitsMSB nb (valueBits n0) ++ bitsMSB 6 0
       else bitsMSB nb 0 ++ bitsMSB 6 (nb / 8) ++ ((n0 :: rest).map valueBits).flatMap (bitsMSB nb)) ∧
    WInv (putIeeeCompressed w (n0 :: rest)) := by
  subst hnb
  have hb := putFields_bits (fieldsIeee (n0 :: rest)) w hI
  rw [← putIeeeCompressed_fields] at hb
  unfold fieldsIeee at hb
  split
  · simpa only [if_pos ‹_›, fieldBits_cons, fieldBits_nil, List.append_nil] using hb
  · simpa only [if_neg ‹_›, fieldBits_append, fieldBits_cons, fieldBits_nil, fieldBits_flatMap, List.append_nil,
      List.append_assoc] using hb

/-- **compressed IEEE column round trip**: whatever the encoder writes for a column of IEEE fields — the value once
when all subsets hold the same bits, every value in full otherwise — the decoder gives each subset of the request
its own bits back (for the whole dataset or any slice) and ends right behind the column -/
theorem ieee_column_roundtrip (w : W) (hI : WInv w) (n0 : Node) (rest : List Node)
    (r : R) (hIr : RInv r) (tail : List Bool)
    (hb : w.bits ++ r.bits = (putIeeeCompressed w (n0 :: rest)).bits ++ tail)
    (cb : Node) (col : List Node) (hnb : cb.enc.nbits = if n0.enc.nbits = 64 then 64 else 32)
    (g : Range) (hg : g.OK) (hn : g.nsub = (n0 :: rest).length) (hcol : (cb :: col).length = g.count) :
    ∃ r', getIeeeCompressed r (cb :: col) g =
        some (r', zipWithNodes ieeeSetv (cb :: col)
          ((g.slice ((n0 :: rest).map valueBits)).map (· % 2^cb.enc.nbits.toNat))) ∧
      r'.bits = tail ∧ RInv r' := by
  obtain ⟨pb, _⟩ := putIeeeCompressed_bits w hI n0 rest _ rfl
  rw [pb, List.append_assoc] at hb
  have hb' := List.append_cancel_left hb
  have hnbn : cb.enc.nbits.toNat = (if n0.enc.nbits = 64 then 64 else 32 : Nat) := by
    rw [hnb]; split <;> rfl
  have hrange : 1 ≤ cb.enc.nbits ∧ cb.enc.nbits ≤ 64 := by rw [hnb]; split <;> omega
  by_cases hall : ((n0 :: rest).map valueBits).all (· = valueBits n0) = true
  · rw [if_pos hall, ← hnbn] at hb'
    obtain ⟨r', e, hr, hi⟩ := getIeeeCompressed_const r cb col g (valueBits n0) tail hIr hrange hb'
    refine ⟨r', ?_, hr, hi⟩
    rw [e]
    apply some_pair_congr
    -- every value of the slice is the common value
    have hconst : ∀ v ∈ g.slice ((n0 :: rest).map valueBits), v = valueBits n0 := by
      intro v hv
      have := Range.slice_mem g _ v hv
      exact of_decide_eq_true (List.all_eq_true.mp hall v this)
    have hlen : (g.slice ((n0 :: rest).map valueBits)).length = (cb :: col).length := by
      rw [Range.slice_length g hg _ (by simp [hn]), hcol]
    exact (zipWithNodes_const ieeeSetv (valueBits n0 % 2^cb.enc.nbits.toNat) (cb :: col) _ (by rw [List.length_map, hlen])
      (by intro v hv; obtain ⟨x, hx, rfl⟩ := List.mem_map.mp hv; rw [hconst x hx])).symm
  · rw [if_neg hall, ← hnbn] at hb'
    have hk : (if n0.enc.nbits = 64 then 64 else 32 : Nat) / 8 > 0 ∧ (if n0.enc.nbits = 64 then 64 else 32 : Nat) / 8 < 64 := by
      split <;> omega
    have hb'' : r.bits = bitsMSB cb.enc.nbits.toNat 0 ++ bitsMSB 6 ((if n0.enc.nbits = 64 then 64 else 32 : Nat) / 8) ++
        ((n0 :: rest).map valueBits).flatMap (bitsMSB cb.enc.nbits.toNat) ++ tail := by
      rw [hb']
      simp [hnbn, List.append_assoc]
    exact getIeeeCompressed_listed r cb col g 0 _ _ tail hIr hrange hk.1 hk.2 hg (by simp [hn]) hb''

theorem forall2_length {α β} {R : α → β → Prop} :
    ∀ {l₁ : List α} {l₂ : List β}, List.Forall₂ R l₁ l₂ → l₁.length = l₂.length
  | _, _, .nil => rfl
  | _, _, .cons _ h => by simp [forall2_length h]

theorem forall2_right {α β} {R : α → β → Prop} :
    ∀ {l₁ : List α} {l₂ : List β}, List.Forall₂ R l₁ l₂ → ∀ b ∈ l₂, ∃ a, R a b
  | _, _, .nil, _, hb => by simp at hb
  | _, _, .cons h t, b, hb => by
    rcases List.mem_cons.mp hb with rfl | hb
    · exact ⟨_, h⟩
    · exact forall2_right t b hb

/-- decoder node `n` and encoder node `m` describe the same position of the same layout -/
structure Pair (n m : Node) : Prop where
  enc : n.enc = m.enc
  skipped : n.flags.skipped = m.flags.skipped
  data : n.flags.skipped = false →
    ((mkvalNode n).val.isSome = true ∧ (mkvalNode n).afW = m.afW ∧ widthOK m) ∨
    ((mkvalNode n).val.isSome = false ∧ nodeBits m = [])

/-- what the decoder leaves in position `n` after reading the bits of `m` -/
def readBack' (n m : Node) : Node :=
  if n.flags.skipped then n else if (mkvalNode n).val.isSome then readBack n m else mkvalNode n

/-- the decoder's list is a fixed point of Table C application from state `ddo`, holds no new
reference value definitions (2 03) and no unexpanded delayed replication -/
def staticOK (T : Tables) (edition : Nat) : DDO → List Node → Bool
  | _, [] => true
  | ddo, n :: ns =>
    let a := applyTables2node T edition ddo n
    decide (a.2.1 = n) && !a.2.2 && decide (n.enc.type ≠ .chngRef) &&
    !(decide (Desc.f n.desc = 1) && decide (Desc.y n.desc = 0) && !n.flags.skipped) &&
    staticOK T edition a.1 ns

theorem readBack_frame (n m : Node) : ∃ v b, readBack n m = { mkvalNode n with val := v, afBits := b } := by
  unfold readBack
  dsimp only
  by_cases ha : (mkvalNode n).enc.afNbits > 0 ∧ (mkvalNode n).afW > 0
  · simp only [if_pos ha]
    split
    case h_2 => split <;> exact ⟨_, _, rfl⟩  -- IEEE: 64 or 32 bits
    all_goals exact ⟨_, _, rfl⟩
  · simp only [if_neg ha]
    split
    case h_2 => split <;> exact ⟨_, _, rfl⟩
    all_goals exact ⟨_, _, rfl⟩

theorem readBack_enc (n m : Node) :
    (readBack n m).enc = (mkvalNode n).enc ∧ (readBack n m).desc = (mkvalNode n).desc := by
  obtain ⟨v, b, h⟩ := readBack_frame n m
  rw [h]
  exact ⟨rfl, rfl⟩

theorem applyWidth_upd (ddo1 : DDO) (n : Node) (f : Flags) (e' : Enc) (a : List Nat) (w b : Nat) (c : Bool) (e : Enc) :
    applyWidth ddo1 { n with flags := f, enc := e', af := a, afW := w, afBits := b } c e = applyWidth ddo1 n c e := by
  unfold applyWidth applyNumeric
  rfl

theorem applyTail_idem (ddo1 : DDO) (n : Node) (e1 : Enc) (err1 : Bool) :
    applyTail ddo1 (applyTail ddo1 n e1 err1).2.1 e1 err1 = applyTail ddo1 n e1 err1 := by
  unfold applyTail
  simp only [Bool.or_assoc, Bool.or_self, applyWidth_upd]
  have haf : ∀ c, applyAFList ddo1 c e1 (applyAFList ddo1 c e1 n.af) = applyAFList ddo1 c e1 n.af := by
    intro c; unfold applyAFList; split <;> simp_all
  rw [haf]
  by_cases hc : (afApplies ddo1 (n.flags.class31 || decide (Desc.x n.desc = 31)) e1 && n.val.isSome &&
      n.afW != listSumN ddo1.afList) = true
  · simp only [hc, if_true]
    simp
  · simp only [hc, Bool.false_eq_true, if_false]

theorem applyTail_desc (d : DDO) (n : Node) (e : Enc) (b : Bool) : (applyTail d n e b).2.1.desc = n.desc := by
  unfold applyTail; simp

theorem applyTail_skipped (d : DDO) (n : Node) (e : Enc) (b : Bool) :
    (applyTail d n e b).2.1.flags.skipped = n.flags.skipped := by
  unfold applyTail; simp

/-- **Table C application is idempotent**: applying `bufr_apply_tables2node` to a node it has
already processed, from the same operator state, changes nothing — which is why the decoder, which
applies the tables to its template copy and then again while reading, sees the layout the encoder
wrote -/
theorem applyTables2node_idem (T : Tables) (edition : Nat) (ddo : DDO) (n : Node) :
    applyTables2node T edition ddo (applyTables2node T edition ddo n).2.1 = applyTables2node T edition ddo n := by
  by_cases hop : Desc.f n.desc = 2 ∧ (!n.flags.skipped) = true
  · have h1 : applyTables2node T edition ddo n =
        applyTail (resolveTableC ddo (Desc.x n.desc) (Desc.y n.desc) edition).ddo n
          (match (resolveTableC ddo (Desc.x n.desc) (Desc.y n.desc) edition).enc with
            | some (t, nb) => { reassign n.desc (baseEnc T ddo n.desc) with type := t, nbits := nb }
            | none => reassign n.desc (baseEnc T ddo n.desc))
          (decide ((resolveTableC ddo (Desc.x n.desc) (Desc.y n.desc) edition).rc < 0)) := by
      unfold applyTables2node
      simp only
      rw [if_pos hop]
      rfl
    rw [h1]
    unfold applyTables2node
    simp only [applyTail_desc, applyTail_skipped]
    rw [if_pos hop]
    exact applyTail_idem _ _ _ _
  · have h1 : applyTables2node T edition ddo n =
        applyTail ddo n (reassign n.desc (baseEnc T ddo n.desc)) false := by
      unfold applyTables2node
      simp only
      rw [if_neg hop]
    rw [h1]
    unfold applyTables2node
    simp only [applyTail_desc, applyTail_skipped]
    rw [if_neg hop]
    exact applyTail_idem _ _ _ _

theorem applyTablesAll_fixed (T : Tables) (edition : Nat) : ∀ (ns : List Node) (ddo : DDO),
    applyTablesAll T edition ddo (applyTablesAll T edition ddo ns).1 = applyTablesAll T edition ddo ns := by
  intro ns
  induction ns with
  | nil => intro ddo; simp [applyTablesAll]
  | cons n ns ih =>
    intro ddo
    simp only [applyTablesAll]
    rw [applyTables2node_idem, ih]

/-- `staticOK` without the fixed-point clause: a property of the template alone -/
def plainOK (T : Tables) (edition : Nat) : DDO → List Node → Bool
  | _, [] => true
  | ddo, n :: ns =>
    let a := applyTables2node T edition ddo n
    !a.2.2 && decide (n.enc.type ≠ .chngRef) &&
    !(decide (Desc.f n.desc = 1) && decide (Desc.y n.desc = 0) && !n.flags.skipped) &&
    plainOK T edition a.1 ns

/-- the decoder's template copy (`bufr_apply_Tables` over the expanded template) is static as soon as
it raises no operator error and holds no 2 03 definitions and no delayed replication -/
theorem staticOK_of_applied (T : Tables) (edition : Nat) : ∀ (ns : List Node) (ddo : DDO),
    plainOK T edition ddo (applyTablesAll T edition ddo ns).1 = true →
    staticOK T edition ddo (applyTablesAll T edition ddo ns).1 = true := by
  intro ns
  induction ns with
  | nil => intro ddo _; simp [applyTablesAll, staticOK]
  | cons n ns ih =>
    intro ddo h
    simp only [applyTablesAll] at h ⊢
    simp only [plainOK, applyTables2node_idem, Bool.and_eq_true] at h
    simp only [staticOK, applyTables2node_idem, Bool.and_eq_true, decide_eq_true_eq]
    obtain ⟨⟨⟨h1, h2⟩, h3⟩, h4⟩ := h
    exact ⟨⟨⟨⟨trivial, h1⟩, by simpa using h2⟩, h3⟩, ih _ h4⟩

theorem padSection4_bits (edition : Nat) (w : W) (hI : WInv w) :
    ∃ z, (padSection4 edition w).bits = w.bits ++ z ∧ WInv (padSection4 edition w) := by
  unfold padSection4
  simp only
  by_cases h : edition ≤ 3 ∧ (w.filled + 4 + (if w.bitno > 0 then 1 else 0)) % 2 = 1
  · rw [if_pos h]
    obtain ⟨p1, p2⟩ := putbits_bits w 0 (if w.bitno = 0 then 8 else 8 - w.bitno + 8) hI
    exact ⟨_, p1, p2⟩
  · rw [if_neg h]; exact ⟨[], by simp, hI⟩

theorem encodeData_reader (ss : List (List Node)) (dataFlag edition : Nat) :
    ∃ pad, (R.ofBytes (padSection4 edition (encodeData ss dataFlag 0).2).bytes).bits =
      ss.flatMap (fun s => s.flatMap nodeBits) ++ pad ∧
      RInv (R.ofBytes (padSection4 edition (encodeData ss dataFlag 0).2).bytes) := by
  have h0 : WInv ((W.new 0).alloc (s4Estimate ss)) := alloc_inv _ _ (WInv_new 0)
  have hb0 : ((W.new 0).alloc (s4Estimate ss)).bits = [] := by
    unfold W.alloc W.new W.bits; split <;> simp
  have he : (encodeData ss dataFlag 0).2 =
      ss.foldl (fun w s => s.foldl putDescValue w) ((W.new 0).alloc (s4Estimate ss)) := by
    unfold encodeData; simp
  obtain ⟨p1, p2⟩ := encode_subsets_bits ss _ h0
  rw [hb0, List.nil_append] at p1
  rw [he]
  obtain ⟨z, q1, q2⟩ := padSection4_bits edition _ p2
  obtain ⟨pad, hall⟩ := ofBytes_allBits (padSection4 edition
    (ss.foldl (fun w s => s.foldl putDescValue w) ((W.new 0).alloc (s4Estimate ss))))
  refine ⟨z ++ pad, ?_, ⟨by simp [R.ofBytes]⟩⟩
  have : ∀ r : R, r.pos = 0 → r.bits = r.allBits := by
    intro r h; unfold R.bits; rw [h]; simp
  rw [this _ (by simp [R.ofBytes, R.pos]), hall, q1, p1, List.append_assoc]

/-! ### decidable forms of the layout hypotheses (for concrete instances) -/

def widthOKb (m : Node) : Bool :=
  (match m.enc.type with
   | .ccitt => decide (8 ≤ m.enc.nbits)
   | .ieee => decide (m.enc.nbits = 32 ∨ m.enc.nbits = 64)
   | .numeric | .chngRef | .codetable | .flagtable => decide (1 ≤ m.enc.nbits ∧ m.enc.nbits ≤ 64)
   | _ => true) && decide (m.afW ≤ 64)

theorem widthOKb_iff (m : Node) : widthOKb m = true ↔ widthOK m := by
  unfold widthOKb widthOK
  cases m.enc.type <;> simp

theorem widthOK_of_b (m : Node) (h : widthOKb m = true) : widthOK m := (widthOKb_iff m).mp h

def pairb (n m : Node) : Bool :=
  decide (n.enc = m.enc) && decide (n.flags.skipped = m.flags.skipped) &&
  (n.flags.skipped ||
    ((mkvalNode n).val.isSome && decide ((mkvalNode n).afW = m.afW) && widthOKb m) ||
    (!(mkvalNode n).val.isSome && decide (nodeBits m = [])))

theorem pair_of_b (n m : Node) (h : pairb n m = true) : Pair n m := by
  unfold pairb at h
  simp only [Bool.and_eq_true, Bool.or_eq_true, decide_eq_true_eq, Bool.not_eq_true'] at h
  obtain ⟨⟨h1, h2⟩, h3⟩ := h
  refine ⟨h1, h2, ?_⟩
  intro hs
  rcases h3 with (h | ⟨⟨a, b⟩, c⟩) | ⟨a, b⟩
  · rw [hs] at h; exact absurd h (by simp)
  · exact Or.inl ⟨a, b, widthOK_of_b m c⟩
  · exact Or.inr ⟨a, b⟩

def pairsb : List Node → List Node → Bool
  | [], [] => true
  | n :: ns, m :: ms => pairb n m && pairsb ns ms
  | _, _ => false

theorem pairs_of_b : ∀ (ns ms : List Node), pairsb ns ms = true → List.Forall₂ Pair ns ms := by
  intro ns
  induction ns with
  | nil => intro ms h; cases ms with
    | nil => exact List.Forall₂.nil
    | cons _ _ => simp [pairsb] at h
  | cons n ns ih => intro ms h; cases ms with
    | nil => simp [pairsb] at h
    | cons m ms =>
      simp only [pairsb, Bool.and_eq_true] at h
      exact List.Forall₂.cons (pair_of_b n m h.1) (ih ms h.2)

theorem getDescValue_preserves (r : R) (n : Node) (r' : R) (n' : Node) (h : getDescValue r n = some (r', n')) :
    n'.desc = n.desc ∧ n'.enc = n.enc := by
  obtain ⟨v, w, b, rfl⟩ := getDescValue_frame r r' n n' h
  exact ⟨rfl, rfl⟩

/-- **C05, static templates, arbitrary bytes.**  Whatever bytes the reader holds — truncated,
random, hostile — the subset loop over a static layout ends normally: it never dereferences a
missing node (`XErr.null`), never runs out of fuel once `fuel > |nodes|` (the number of iterations is
the number of nodes, not something the data claim), and returns every node of the list; it either
completes or stops at the first premature end of data. -/
theorem decodeSubsetLoop_static_any (T : Tables) (edition s4max : Nat) :
    ∀ (nodes : List Node) (fuel : Nat) (ddo : DDO) (st : DecSt) (done : List Node),
    nodes.length < fuel → staticOK T edition ddo nodes = true →
    ∃ st' out fin, decodeSubsetLoop T edition s4max fuel ddo st done nodes = .ok (st', out, fin) ∧
      (fin = .complete ∨ fin = .shortRead) ∧ out.length = done.length + nodes.length := by
  intro nodes
  induction nodes with
  | nil =>
    intro fuel ddo st done hf _
    cases fuel with
    | zero => simp at hf
    | succ f => exact ⟨st, done.reverse, .complete, by simp [decodeSubsetLoop], Or.inl rfl, by simp⟩
  | cons n ns ih =>
    intro fuel ddo st done hf hok
    cases fuel with
    | zero => simp at hf
    | succ f =>
    simp only [staticOK, Bool.and_eq_true, decide_eq_true_eq, Bool.not_eq_eq_eq_not,
      Bool.not_true] at hok
    obtain ⟨⟨⟨⟨hfix, herr⟩, hnc⟩, hnd⟩, hrest⟩ := hok
    unfold decodeSubsetLoop
    generalize ha : applyTables2node T edition ddo n = a at hfix herr hrest
    obtain ⟨ddo1, n1, err⟩ := a
    simp only at hfix herr hrest
    subst hfix
    subst herr
    simp only [Bool.or_false]
    by_cases hsk : n1.flags.skipped = true
    · rw [if_pos hsk]
      obtain ⟨st', out, fin, e, hfin, hlen⟩ := ih f ddo1 st (n1 :: done) (by simp at hf; omega) hrest
      exact ⟨st', out, fin, e, hfin, by rw [hlen, List.length_cons, List.length_cons]; omega⟩
    · rw [if_neg hsk]
      cases hg : getDescValue st.r n1 with
      | none =>
        exact ⟨{ st with invalid := true }, done.reverse ++ n1 :: ns, .shortRead, by simp, Or.inr rfl, by simp⟩
      | some p =>
        obtain ⟨r2, n2⟩ := p
        obtain ⟨hd, he⟩ := getDescValue_preserves st.r n1 r2 n2 hg
        simp only
        have hcr : applyOpCrefval T ddo1 n2 = ddo1 := by
          unfold applyOpCrefval; rw [he]; simp [hnc]
        rw [hcr]
        have hsk' : n1.flags.skipped = false := by simpa using hsk
        have hnd' : ¬ (Desc.f n2.desc = 1 ∧ Desc.y n2.desc = 0) := by
          rw [hd]; intro ⟨h1, h2⟩; simp [h1, h2, hsk'] at hnd
        rw [if_neg hnd']
        obtain ⟨st', out, fin, e, hfin, hlen⟩ := ih f ddo1 { st with r := r2 } (n2 :: done) (by simp at hf; omega) hrest
        exact ⟨st', out, fin, e, hfin, by rw [hlen, List.length_cons, List.length_cons]; omega⟩

end Bufr
