import BufrProofs.DumpLoad
/-
  C13, node level: from conditions on a node and its meta text to `LineOK` (the printed line is
  read whole and parses to the node's record), and the values the loader stores from the tokens.
-/
namespace Bufr.Dump
open Bufr Bufr.SF Bufr.Printf

/-- the conditions under which the line printed for a node can be read back: descriptor an `int`,
meta text made of `{…}` blocks, associated field of at most 64 bits, a character value without line
ends (and not in a flag table), any other value printed as a clean token, and a line `fgets` holds -/
structure NodeText (trim : Bool) (mt : List Nat) (n : Node) : Prop where
  desc : n.desc < 2 ^ 31
  mtOK : n.flags.skipped = false → ∃ L, mt = renderMeta L ∧ ∀ p ∈ L, BlockOK p.1
  af : n.afBits < 2 ^ 64
  str : ∀ bs, n.flags.skipped = false → n.val = .str bs →
    n.enc.type ≠ .flagtable ∧ cstr bs ≠ [] ∧ ∀ c ∈ cstr bs, c ≠ 10 ∧ c ≠ 13
  tok : n.flags.skipped = false → n.val.isSome = true → (∀ bs, n.val ≠ .str bs) → CleanTok (printDscptrValue trim n)
  short : (printNode trim mt n).length ≤ 2047

theorem renderMeta_chars (L : List (List Nat × Nat)) (hL : ∀ p ∈ L, BlockOK p.1) :
    ∀ c ∈ renderMeta L, c ≠ 10 ∧ c ≠ 0 := by
  induction L with
  | nil => simp [renderMeta]
  | cons p r ih =>
    obtain ⟨b, sp⟩ := p
    intro c hc
    simp only [renderMeta, List.mem_cons, List.mem_append] at hc
    rcases hc with rfl | hc | rfl | hc | hc
    · decide
    · have := hL (b, sp) (by simp) c hc; exact ⟨this.2.1, this.2.2⟩
    · decide
    · have := List.eq_of_mem_replicate hc; subst this; decide
    · exact ih (fun p hp => hL p (by simp [hp])) c hc

theorem printAf_chars (bits w : Nat) : ∀ c ∈ printAf bits w, c ≠ 10 ∧ c ≠ 0 := by
  rw [printAf_eq]
  simp only [List.forall_mem_cons, List.forall_mem_append]
  exact ⟨by decide, by decide, by decide, fun c hc => by have := hexNat_chars bits c hc; omega, by decide,
    decNat_line w, by decide⟩

theorem printDscptrValue_str (trim : Bool) (n : Node) (bs : List Nat) (hv : n.val = .str bs)
    (ht : n.enc.type ≠ .flagtable) : printDscptrValue trim n = 34 :: (cstr bs ++ [34]) := by
  unfold printDscptrValue
  cases hty : n.enc.type <;> simp_all [printScaledValue]

theorem recOf_tok (trim : Bool) (n : Node) (hsk : n.flags.skipped = false) (hv : n.val.isSome = true)
    (hns : ∀ bs, n.val ≠ .str bs) :
    recOf trim n = { icode := n.desc, af := afOf n, tok := some (printDscptrValue trim n), quoted := false } := by
  unfold recOf
  rw [hsk, hv]
  cases hval : n.val with
  | str bs => exact absurd hval (hns bs)
  | _ => rfl

theorem B_hash : B "#" = [35] := by decide

theorem B_sp : B " " = [32] := by decide

/-- **one dump line**: under `NodeText` the printed line is read whole and parses to the record of
the node — descriptor, associated field, value token (quoted strings keep their blanks, quotes,
braces and parentheses) -/
theorem lineOK_of_nodeText (trim : Bool) (mt : List Nat) (n : Node) (h : NodeText trim mt n) : LineOK trim mt n := by
  have hdig := fmtD6_chars n.desc
  have hdne := fmtD6_ne_nil n.desc
  obtain ⟨cd, td, hcd⟩ := List.exists_cons_of_ne_nil hdne
  have hcdd : isDigit cd = true := hdig cd (by rw [hcd]; simp)
  have hdch : ∀ c ∈ fmtD6 (n.desc : Int), c ≠ 10 ∧ c ≠ 0 := by
    intro c hc
    have := isDigit_iff.mp (hdig c hc)
    omega
  by_cases hsk : n.flags.skipped = true
  · -- a SKIPPED node: `#`?, descriptor, blank
    have hform : printNode trim mt n =
        (if n.flags.ignored && !n.flags.expanded then [35] else []) ++ fmtD6 (n.desc : Int) ++ [32] ++ [10] := by
      unfold printNode; rw [if_pos hsk, B_hash, B_sp]
    have hcm : isComment n = (n.flags.ignored && !n.flags.expanded) := by unfold isComment; rw [hsk, Bool.true_and]
    refine ⟨⟨(if n.flags.ignored && !n.flags.expanded then [35] else []) ++ fmtD6 (n.desc : Int) ++ [32],
      hform, ?_, ?_⟩, ?_, ?_, ?_⟩
    · intro c hc
      simp only [List.mem_append] at hc
      rcases hc with (hc | hc) | hc
      · split_ifs at hc
        · simp at hc; subst hc; decide
        · simp at hc
      · exact hdch c hc
      · simp at hc; subst hc; decide
    · have := h.short; rw [hform] at this; simp at this ⊢; omega
    · intro hc; rw [hform, ← hcm, hc]; exact ⟨_, rfl⟩
    · intro hc; rw [hform, ← hcm, hc, hcd]; exact ⟨cd, _, rfl, hcdd⟩
    · intro hc
      rw [hform, ← hcm, hc]
      have := parseLine_novalue n.desc h.desc [] (by simp)
      simp only [renderMeta, List.nil_append] at this
      simp only [Bool.false_eq_true, if_false, List.nil_append, List.append_assoc, List.singleton_append]
      rw [this]
      unfold recOf; simp [hsk]
  · have hsk' : n.flags.skipped = false := by simpa using hsk
    obtain ⟨L, hmt, hL⟩ := h.mtOK hsk'
    have hcm : isComment n = false := by unfold isComment; simp [hsk']
    have hmch := renderMeta_chars L hL
    subst hmt
    obtain ⟨a, haT, haR, ha64⟩ : ∃ a : Option (Nat × Nat), (if hasAf n then printAf n.afBits n.afW else []) = afText a ∧
        a.map (fun p => some p.1) = afOf n ∧ ∀ p, a = some p → p.1 < 2 ^ 64 := by
      unfold afOf
      by_cases haf : hasAf n = true
      · exact ⟨some (n.afBits, n.afW), by rw [if_pos haf]; rfl, by rw [if_pos haf]; rfl,
          fun p hp => by rw [← Option.some.inj hp]; exact h.af⟩
      · exact ⟨none, by rw [if_neg haf]; rfl, by rw [if_neg haf]; rfl, fun p hp => by simp at hp⟩
    have hach : ∀ c ∈ afText a, c ≠ 10 ∧ c ≠ 0 := by
      cases a with
      | none => simp [afText]
      | some p => exact printAf_chars _ _
    have hpn : printNode trim (renderMeta L) n = fmtD6 (n.desc : Int) ++ 32 ::
        (renderMeta L ++ (if n.val.isSome then afText a ++ printDscptrValue trim n else []) ++ [10]) := by
      unfold printNode; rw [if_neg hsk, B_sp, haT]; simp
    -- the text `w` after descriptor and meta text: nothing, a quoted string, or a clean token
    obtain ⟨w, hform, hwch, hparse⟩ : ∃ w,
        printNode trim (renderMeta L) n = fmtD6 (n.desc : Int) ++ 32 :: (renderMeta L ++ w ++ [10]) ∧
        (∀ c ∈ w, c ≠ 10 ∧ c ≠ 0) ∧
        parseLine (fmtD6 (n.desc : Int) ++ 32 :: (renderMeta L ++ w ++ [10])) = some (recOf trim n) := by
      by_cases hv : n.val.isSome = true
      · by_cases hs : ∃ bs, n.val = .str bs
        · obtain ⟨bs, hval⟩ := hs
          obtain ⟨ht, hne, hs⟩ := h.str bs hsk' hval
          refine ⟨afText a ++ (34 :: (cstr bs ++ [34])), by rw [hpn, if_pos hv, printDscptrValue_str trim n bs hval ht], ?_, ?_⟩
          · simp only [List.forall_mem_append, List.forall_mem_cons]
            exact ⟨hach, by decide, fun c hc => ⟨(hs c hc).1, mem_cstr_ne_zero bs c hc⟩, by decide, by simp⟩
          · rw [parseLine_quoted n.desc h.desc L hL a ha64 (cstr bs) hne hs, haR]
            unfold recOf; simp [hsk', hval, Val.isSome]
        · have hns : ∀ bs, n.val ≠ .str bs := not_exists.mp hs
          have htok := h.tok hsk' hv hns
          refine ⟨afText a ++ printDscptrValue trim n, by rw [hpn, if_pos hv], ?_, ?_⟩
          · simp only [List.forall_mem_append]
            exact ⟨hach, fun c hc => (isTokChar_facts c (htok.2 c hc)).2.2.2.2.2⟩
          · rw [parseLine_value n.desc h.desc L hL a ha64 _ htok, haR, recOf_tok trim n hsk' hv hns]
      · refine ⟨[], by rw [hpn, if_neg hv], by simp, ?_⟩
        rw [List.append_nil, parseLine_novalue n.desc h.desc L hL]
        unfold recOf
        simp [hsk', (by simpa using hv : n.val.isSome = false)]
    refine ⟨⟨fmtD6 (n.desc : Int) ++ 32 :: (renderMeta L ++ w), by rw [hform]; simp, ?_, ?_⟩, ?_, ?_, ?_⟩
    · simp only [List.forall_mem_append, List.forall_mem_cons]
      exact ⟨hdch, by decide, hmch, hwch⟩
    · have := h.short; rw [hform] at this; simp at this ⊢; omega
    · intro hc; rw [hcm] at hc; simp at hc
    · intro _; rw [hform, hcd]; exact ⟨cd, _, rfl, hcdd⟩
    · intro _; rw [hform]; exact hparse

theorem fmtF_not_msng (k : Nat) (q : ℚ) : fmtF k q ≠ B "MSNG" := by
  intro h
  unfold fmtF at h
  simp only at h
  rw [B_MSNG] at h
  by_cases hq : q < 0
  · simp only [hq, if_true] at h
    simp at h
  · simp only [hq, if_false, List.nil_append] at h
    obtain ⟨c, t, hct⟩ := List.exists_cons_of_ne_nil
      (decNat_ne_nil (rneNat ((if q < 0 then -q else q) * ((10 ^ k : Nat) : ℚ)) / 10 ^ k))
    have hd := decNat_digits _ c (by rw [hct]; simp)
    simp only [hq, if_false] at hct
    rw [hct] at h
    simp at h
    rw [isDigit_iff] at hd
    omega

/-- **wide integers** (`VALTYPE_INT64`): the decimal token is stored as it is -/
theorem storeTok_int64 (n n0 : Node) (r : Rec) (v v0 : Int) (hval : n.val = .i64 v)
    (h0 : -(2:Int) ^ 63 ≤ v) (h1 : v < 2 ^ 63) (hty : n.enc.type ≠ .flagtable)
    (hn0 : n0 = { n with val := .i64 v0 }) :
    storeTok n0 r (fmtInt v) = n := by
  unfold storeTok
  have hv0 : n0.val = .i64 v0 := by rw [hn0]
  have henc : n0.enc = n.enc := by rw [hn0]
  simp only [hv0, henc]
  have : decide (n.enc.type = DType.flagtable) = false := by simp [hty]
  rw [this, intOfTok_fmtInt v h0 h1]
  rw [hn0]
  simp only [Val.setInt64, SF.wrapI64_of_range v h0 h1]
  cases n
  simp_all

/-- **flag tables in binary** (`VALTYPE_INT64`, 32 bits and more) -/
theorem storeTok_flag64 (n n0 : Node) (r : Rec) (v v0 : Int) (hval : n.val = .i64 v)
    (h0 : 0 ≤ v) (h1 : v < 2 ^ 63) (hty : n.enc.type = .flagtable) (hn : n.enc.nbits ≤ 64)
    (hn0 : n0 = { n with val := .i64 v0 }) :
    storeTok n0 r (printBinary v n.enc.nbits) = n := by
  unfold storeTok
  have hv0 : n0.val = .i64 v0 := by rw [hn0]
  have henc : n0.enc = n.enc := by rw [hn0]
  simp only [hv0, henc]
  have : decide (n.enc.type = DType.flagtable) = true := by simp [hty]
  rw [this, intOfTok_printBinary v n.enc.nbits h0 h1 hn]
  rw [hn0]
  simp only [Val.setInt64, SF.wrapI64_of_range v (by have : (0:Int) ≤ (2:Int)^63 := by positivity
                                                     omega) h1]
  cases n
  simp_all

end Bufr.Dump
