import BufrModel.TemplateText
import BufrProofs.Printf
/-
  Decimal digits (C18): `natDigits` (what `%d` prints) and `digitsVal` (what `atoi`/`strtod` read).
  `natDigits` is `Printf.decNat` and `dv` is `Printf.digitsVal`; the digit facts are those of Printf.lean.
-/
namespace Bufr
namespace TT

theorem isDigit_eq : isDigit = Printf.isDigit := rfl

theorem isSpace_eq : isSpace = Printf.isSpace := rfl

theorem digitsAux_eq (f n : Nat) (acc : List Nat) :
    digitsAux f n acc = (Printf.decRev f n).reverse ++ acc := by
  induction f generalizing n acc with
  | zero => rfl
  | succ f ih =>
    unfold digitsAux Printf.decRev
    by_cases h : n < 10
    · simp [h, Nat.div_eq_of_lt h, Nat.mod_eq_of_lt h]
    · have h0 : n / 10 ≠ 0 := by omega
      simp [h, h0, ih]

theorem natDigits_eq_decNat (n : Nat) : natDigits n = Printf.decNat n := by
  unfold natDigits Printf.decNat
  rw [digitsAux_eq, List.append_nil]

theorem natDigits_isDigit (n : Nat) : ∀ c ∈ natDigits n, isDigit c = true := by
  rw [natDigits_eq_decNat, isDigit_eq]
  exact Printf.decNat_digits n

theorem natDigits_ne_nil (n : Nat) : natDigits n ≠ [] := by
  rw [natDigits_eq_decNat]; exact Printf.decNat_ne_nil n

theorem natDigits_length_le (n k : Nat) (hk : 0 < k) (h : n < 10 ^ k) : (natDigits n).length ≤ k := by
  rw [natDigits_eq_decNat]; exact Printf.decNat_length n k hk h

/-- value of a string of digits -/
def dv (l : List Nat) : Nat := l.foldl (fun a c => a * 10 + (c - 48)) 0

theorem dv_eq (l : List Nat) : dv l = Printf.digitsVal l := by
  unfold dv Printf.digitsVal
  simp only [Nat.mul_comm]

theorem foldl_dv_acc (l : List Nat) (a : Nat) :
    l.foldl (fun a c => a * 10 + (c - 48)) a = a * 10 ^ l.length + dv l := by
  rw [dv_eq, ← Printf.digitsVal_foldl]
  simp only [Nat.mul_comm]

theorem dv_append (l1 l2 : List Nat) : dv (l1 ++ l2) = dv l1 * 10 ^ l2.length + dv l2 := by
  simp only [dv_eq, Printf.digitsVal_append]

theorem dv_natDigits (n : Nat) : dv (natDigits n) = n := by
  rw [dv_eq, natDigits_eq_decNat, Printf.digitsVal_decNat]

theorem dv_zeros (k : Nat) : dv (zeros k) = 0 := by
  rw [dv_eq]; exact Printf.digitsVal_replicate_zero k

theorem zeros_isDigit (k : Nat) : ∀ c ∈ zeros k, isDigit c = true := by
  intro c hc; simp [zeros] at hc; rw [hc.2]; decide

theorem digitsVal_digits (l rest : List Nat) (a : Nat) (hl : ∀ c ∈ l, isDigit c = true)
    (hr : ∀ c, rest.head? = some c → isDigit c = false) :
    digitsVal (l ++ rest) a = a * 10 ^ l.length + dv l := by
  rw [← foldl_dv_acc]
  induction l generalizing a with
  | nil =>
    cases rest with
    | nil => rfl
    | cons c r => simp [digitsVal, hr c rfl]
  | cons c l ih =>
    simp only [List.cons_append, digitsVal, List.foldl_cons]
    rw [if_pos (hl c (by simp))]
    exact ih _ (fun c hc => hl c (by simp [hc]))

theorem digitsVal_all (l : List Nat) (h : ∀ c ∈ l, isDigit c = true) : digitsVal l 0 = dv l := by
  simpa using digitsVal_digits l [] 0 h (by simp)

theorem digitsVal_natDigits (n : Nat) (rest : List Nat) (hr : ∀ c, rest.head? = some c → isDigit c = false) :
    digitsVal (natDigits n ++ rest) 0 = n := by
  rw [digitsVal_digits _ _ _ (natDigits_isDigit n) hr, dv_natDigits]; simp

theorem natDigits_head (n : Nat) : ∃ c r, natDigits n = c :: r ∧ isDigit c = true := by
  have h := natDigits_ne_nil n
  cases hd : natDigits n with
  | nil => exact absurd hd h
  | cons c r => exact ⟨c, r, rfl, natDigits_isDigit n c (by simp [hd])⟩

theorem span_stop (p : Nat → Bool) (l tail : List Nat) (h : ∀ c ∈ l, p c = true)
    (ht : ∀ d, tail.head? = some d → p d = false) :
    (l ++ tail).takeWhile p = l ∧ (l ++ tail).dropWhile p = tail :=
  ⟨Printf.takeWhile_append_stop p l tail h ht, Printf.dropWhile_append_stop p l tail h ht⟩

theorem span_all (p : Nat → Bool) (l : List Nat) (h : ∀ c ∈ l, p c = true) :
    l.takeWhile p = l ∧ l.dropWhile p = [] := by
  simpa using span_stop p l [] h (by simp)

theorem sign_of_digit (c : Nat) (r : List Nat) (h : isDigit c = true) :
    takeSign ((c :: r).dropWhile isSpace) = (false, c :: r) := by
  rw [isDigit_eq] at h
  have hs : isSpace c = false := isSpace_eq ▸ Printf.isDigit_not_space c h
  have hd := Printf.isDigit_iff.mp h
  have h45 : c ≠ 45 := by omega
  have h43 : c ≠ 43 := by omega
  rw [List.dropWhile_cons, hs, if_neg Bool.false_ne_true]
  unfold takeSign
  split
  · next heq => exact absurd (List.cons.inj heq).1 h45
  · next heq => exact absurd (List.cons.inj heq).1 h43
  · rfl

theorem sign_of_minus (r : List Nat) : takeSign ((45 :: r).dropWhile isSpace) = (true, r) := rfl

end TT
end Bufr
