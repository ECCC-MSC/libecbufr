import BufrModel.Dump
import BufrProofs.Printf
import BufrProofs.Scale
import Mathlib.Tactic.Linarith
import Mathlib.Tactic.Ring
import Mathlib.Tactic.NormNum
import Mathlib.Tactic.Positivity
import Mathlib.Tactic.FieldSimp
/-
  The dump text of a dataset (C13) reads back: each token the printer writes for a value is what the
  loader's reader of that kind inverts, a printed line parses to its record, and so the subset loader on
  printed lines is the walk over their records.
-/
namespace Bufr.Dump
open Bufr Bufr.SF Bufr.Printf Bufr.Scale

theorem B_append (s t : String) : B (s ++ t) = B s ++ B t := by
  unfold B; rw [String.toList_append, List.map_append]

/-- a string literal is `String.ofList` of its characters: a literal under `B` is rewritten with this -/
theorem B_ofList (l : List Char) : B (String.ofList l) = l.map Char.toNat := by
  unfold B; rw [String.toList_ofList]

theorem B_length (s : String) : (B s).length = s.length := by
  unfold B; rw [List.length_map, String.length_toList]

theorem fmtFVal_of_near (k : ℕ) (q : ℚ) (N : ℤ) (h : |q * ((10 ^ k : ℕ) : ℚ) - N| < 1 / 2) :
    fmtFVal k q = (N:ℚ) / ((10 ^ k : ℕ) : ℚ) := by
  have hpos : (0:ℚ) < ((10 ^ k : ℕ) : ℚ) := by positivity
  -- the digits are those of `|N|`, and `N` has the sign of `q`
  have hr : rne (|q| * ((10 ^ k : ℕ) : ℚ)) = |N| := by
    apply SF.rne_near
    rw [← abs_of_pos hpos, ← abs_mul, Int.cast_abs]
    exact lt_of_le_of_lt (abs_abs_sub_abs_le _ _) h
  have hm : ((rneNat (|q| * ((10 ^ k : ℕ) : ℚ)) : ℕ) : ℚ) = |(N:ℚ)| := by
    unfold rneNat
    rw [hr, natCast_toNat (abs_nonneg N), Int.cast_abs]
  have h' := abs_lt.mp h
  unfold fmtFVal
  simp only [hm]
  split_ifs with hq
  · have : (N:ℚ) < 1 := by linarith [mul_neg_of_neg_of_pos hq hpos]
    have : N < 1 := by exact_mod_cast this
    rw [abs_of_nonpos (by exact_mod_cast (by omega : N ≤ 0))]
    ring
  · have : (-1:ℚ) < N := by linarith [mul_nonneg (not_lt.mp hq) hpos.le]
    have : -1 < N := by exact_mod_cast this
    rw [abs_of_nonneg (by exact_mod_cast (by omega : 0 ≤ N))]

theorem roundIEEE_normal (q : ℚ) (hlo : q = 0 ∨ (1:ℚ) / 10 ^ 16 ≤ |q|) (hhi : |q| ≤ 10 ^ 30) :
    roundIEEE 53 (-1022) 1023 q = .fin (fl 53 q) := by
  unfold roundIEEE
  by_cases hq : q = 0
  · simp [hq, fl_zero]
  rw [if_neg hq]
  simp only
  have hlo' : (1:ℚ) / 10 ^ 16 ≤ |q| := hlo.resolve_left hq
  rw [abs_eq_ite]
  have hmin : pow2 (-1022) ≤ (1:ℚ) / 10 ^ 16 := by
    rw [pow2_eq, show (-1022:ℤ) = -((1022:ℕ):ℤ) by norm_num, zpow_neg, zpow_natCast, ← one_div]
    rw [div_le_div_iff₀ (by positivity) (by positivity)]
    have h64 : (10:ℚ) ^ 16 ≤ 2 ^ 64 := by norm_num
    have h1022 : (2:ℚ) ^ 64 ≤ 2 ^ 1022 := pow_le_pow_right₀ (by norm_num) (by norm_num)
    rw [one_mul, one_mul]; exact le_trans h64 h1022
  rw [if_neg (not_lt.mpr (le_trans hmin hlo'))]
  have hfl : |fl 53 q| ≤ 2 * 10 ^ 30 := by
    have := fl53_abs_le q
    have := mul_le_of_le_one_right (abs_nonneg q) u53_le_one
    linarith
  have hmax : (2:ℚ) * 10 ^ 30 < pow2 (1023 + 1) := by
    rw [pow2_eq, show (1023:ℤ) + 1 = ((1024:ℕ):ℤ) by norm_num, zpow_natCast]
    have h128 : (2:ℚ) * 10 ^ 30 < 2 ^ 128 := by norm_num
    have h1024 : (2:ℚ) ^ 128 ≤ 2 ^ 1024 := pow_le_pow_right₀ (by norm_num) (by norm_num)
    exact lt_of_lt_of_le h128 h1024
  have h1 : ¬ (pow2 (1023 + 1) ≤ fl 53 q ∨ fl 53 q ≤ -pow2 (1023 + 1)) := by
    have := abs_le.mp hfl
    rintro (h | h) <;> linarith
  rw [if_neg h1]

/-- an integer of at most 30 digits over a power of ten up to `10^16` is zero or well inside the normal
range of a double, so `strtod` rounds it once -/
theorem roundIEEE_ratio (N : ℤ) (T : ℚ) (hT1 : 1 ≤ T) (hT2 : T ≤ 10 ^ 16) (hN : |(N:ℚ)| ≤ 10 ^ 30) :
    roundIEEE 53 (-1022) 1023 ((N:ℚ) / T) = .fin (fl 53 ((N:ℚ) / T)) := by
  have hT : (0:ℚ) < T := by linarith
  apply roundIEEE_normal
  · by_cases hN0 : N = 0
    · left; rw [hN0]; simp
    · right
      rw [abs_div, abs_of_pos hT, div_le_div_iff₀ (by positivity) hT]
      have h1N : (1:ℚ) ≤ |(N:ℚ)| := by
        have : ((1:ℤ):ℚ) ≤ ((|N| : ℤ) : ℚ) := by exact_mod_cast Int.one_le_abs hN0
        rwa [Int.cast_abs, Int.cast_one] at this
      calc 1 * T ≤ 1 * 10 ^ 16 := by linarith
        _ ≤ |(N:ℚ)| * 10 ^ 16 := mul_le_mul_of_nonneg_right h1N (by positivity)
  · rw [abs_div, abs_of_pos hT, div_le_iff₀ hT]
    calc |(N:ℚ)| ≤ 10 ^ 30 * 1 := by linarith
      _ ≤ 10 ^ 30 * T := mul_le_mul_of_nonneg_left hT1 (by positivity)

/-- **the decimal text of a decoded value reads back as the same double** (both branches of
`bufr_print_scaled_double`: `%.{scale}f`, and `%.1f` for a negative scale) -/
theorem strtod_printScaled (e : Scale.Enc) (hv : e.Valid) (i : ℤ) (h0 : 0 ≤ i) (h1 : i < 2 ^ e.nbits - 1) :
    strtod (printScaled e.scale (cvtI64ToDval e i)) = .fin (cvtI64ToDval e i) := by
  have hN := N_bound e hv i h0 h1
  have hxeq := cvtI64ToDval_eq e hv i h0 h1
  rw [dP_eq_T e hv] at hxeq
  set x := cvtI64ToDval e i with hx
  set N : ℤ := i + e.ref with hNd
  unfold strtod printScaled
  by_cases hs : e.scale < 0
  · -- `%.1f` of a double that is an integer `w`: the text is `w.0`, and `w` is a double
    rw [if_pos hs, strtoFP_fmtF]
    obtain ⟨m, hm⟩ := Int.eq_ofNat_of_zero_le (show 0 ≤ -e.scale by omega)
    have hT : (N:ℚ) / T10 e.scale = ((N * 10 ^ m : ℤ) : ℚ) := by
      rw [show e.scale = -(m:ℤ) by omega]; simp only [T10, zpow_neg, zpow_natCast]; push_cast; field_simp
    obtain ⟨w, hw⟩ := fl_int_isInt 53 (N * 10 ^ m)
    rw [hT, hw] at hxeq
    have hval : fmtFVal 1 x = (w:ℚ) / 1 := by
      rw [fmtFVal_of_near 1 x (w * 10) (by rw [hxeq]; push_cast; simp), div_one]; push_cast; field_simp
    have hwb : |(w:ℚ)| ≤ 10 ^ 30 := by
      have hbig : |((N * 10 ^ m : ℤ) : ℚ)| ≤ (2 ^ 32 + 2 ^ 30) * 10 ^ 16 := by
        push_cast; rw [abs_mul, abs_of_pos (by positivity : (0:ℚ) < 10 ^ m)]
        exact mul_le_mul hN (pow_le_pow_right₀ (by norm_num) (by have := hv.s1; omega)) (by positivity) (by positivity)
      have hb := fl53_abs_le ((N * 10 ^ m : ℤ) : ℚ)
      have := mul_le_of_le_one_right (abs_nonneg ((N * 10 ^ m : ℤ) : ℚ)) u53_le_one
      rw [hw] at hb
      linarith
    rw [hval, roundIEEE_ratio w 1 le_rfl (by norm_num) hwb, div_one, hxeq, ← hw, fl_idem 53 (by norm_num)]
  · -- `%.{scale}f` of a double within 2^-18 of `N / 10^scale`: the text is that decimal
    rw [if_neg hs, strtoFP_fmtF]
    obtain ⟨k, hk⟩ := Int.eq_ofNat_of_zero_le (not_lt.mp hs)
    have hT : T10 e.scale = ((10 ^ k : ℕ) : ℚ) := by rw [hk]; simp [T10]
    have hnear : |x * ((10 ^ k : ℕ) : ℚ) - N| < 1 / 2 := by
      have := (decode_onGrid e hv i h0 h1).near
      rw [hT] at this
      have h18 : (0:ℚ) < 1 / 2 ^ 18 := by positivity
      linarith
    have hT1 : (1:ℚ) ≤ T10 e.scale := by rw [hT]; exact_mod_cast Nat.one_le_pow _ _ (by norm_num)
    have hT2 : T10 e.scale ≤ 10 ^ 16 := by
      rw [hT]; exact_mod_cast Nat.pow_le_pow_right (by norm_num) (show k ≤ 16 by have := hv.s2; omega)
    rw [show e.scale.toNat = k by omega, fmtFVal_of_near _ x N hnear, ← hT,
      roundIEEE_ratio N _ hT1 hT2 (le_trans hN (by norm_num)), ← hxeq]

theorem printScaledValue_decoded (trim : Bool) (e : Scale.Enc) (hv : e.Valid) (i : ℕ) (hi : i < 2 ^ e.nbits - 1) :
    printScaledValue trim (.f64 (.fin (cvtI64ToDval e i))) (some e.scale) =
      printScaled e.scale (cvtI64ToDval e i) := by
  have hnm := decode_not_missing e hv i (Int.natCast_nonneg i) (natCast_lt_allOnes hi)
  simp [printScaledValue, fpMissingD, hnm]

theorem cvtDvalToI64_printScaledValue (trim : Bool) (code : Desc) (e : Scale.Enc) (hv : e.Valid) (i : ℕ)
    (hi : i < 2 ^ e.nbits - 1) :
    cvtDvalToI64 code e (strtod (printScaledValue trim (.f64 (.fin (cvtI64ToDval e i))) (some e.scale))) = i := by
  rw [printScaledValue_decoded trim e hv i hi,
    strtod_printScaled e hv i (Int.natCast_nonneg i) (natCast_lt_allOnes hi)]
  exact cvtDvalToI64_decode code e hv i hi

theorem binVal_foldl (ds : List Nat) (a : Nat) :
    ds.foldl (fun a c => 2 * a + (if c = 49 then 1 else 0)) a = a * 2 ^ ds.length + binVal ds := by
  have := foldl_radix 2 (ds.map (fun c => if c = 49 then 1 else 0)) a
  rwa [List.foldl_map, List.foldl_map, List.length_map] at this

theorem binVal_append (a b : List Nat) : binVal (a ++ b) = binVal a * 2 ^ b.length + binVal b := by
  unfold binVal
  rw [List.foldl_append, binVal_foldl]; rfl

theorem binVal_zeros (k : Nat) : binVal (List.replicate k 48) = 0 := by
  induction k with
  | zero => rfl
  | succ k ih =>
    rw [List.replicate_succ, show (48 :: List.replicate k 48) = [48] ++ List.replicate k 48 from rfl,
      binVal_append, ih]; simp [binVal]

/-- the digits `bufr_print_binary` produces are the radix-2 digits, except that zero has none -/
theorem binDigits_eq (f v : Nat) :
    binDigits f v = if v = 0 then [] else ((radixRevV 2 f v).map (48 + ·)).reverse := by
  induction f generalizing v with
  | zero => simp [binDigits, radixRevV]
  | succ f ih =>
    unfold binDigits radixRevV
    by_cases hv : v = 0
    · simp [hv]
    · rw [if_neg hv, if_neg hv, ih]
      by_cases h2 : v / 2 = 0 <;> simp [h2]

theorem binVal_map (l : List Nat) (h : ∀ d ∈ l, d < 2) :
    binVal (l.map (48 + ·)) = l.foldl (fun a d => 2 * a + d) 0 := by
  unfold binVal
  rw [List.foldl_map]
  refine List.foldl_ext _ _ _ fun a d hd => ?_
  have := h d hd
  split_ifs <;> omega

theorem binDigits_val (f v : Nat) (h : v < 2 ^ f) : binVal (binDigits f v) = v := by
  rw [binDigits_eq]
  split_ifs with hv
  · exact hv.symm
  · rw [← List.map_reverse, binVal_map _ fun d hd => radixRevV_lt 2 (by norm_num) f v d (List.mem_reverse.mp hd),
      foldl_radix_reverse, radixRevV_val 2 f v h]

theorem binDigits_chars (f v : Nat) : ∀ c ∈ binDigits f v, c = 48 ∨ c = 49 := by
  intro c hc
  rw [binDigits_eq] at hc
  split_ifs at hc
  · simp at hc
  · obtain ⟨d, hd, rfl⟩ := List.mem_map.mp (List.mem_reverse.mp hc)
    have := radixRevV_lt 2 (by norm_num) f v d hd
    omega

theorem binDigits_length (f v : Nat) (k : Nat) (h : v < 2 ^ k) : (binDigits f v).length ≤ k := by
  rw [binDigits_eq]
  split_ifs with hv
  · simp
  · rw [List.length_reverse, List.length_map]
    exact radixRevV_length 2 f v k (Nat.pos_of_ne_zero (by rintro rfl; omega)) h

theorem printBinary_chars (v : Int) (n : Int) (hv : 0 ≤ v) : ∀ c ∈ printBinary v n, c = 48 ∨ c = 49 := by
  unfold printBinary
  rw [if_neg (by omega)]
  intro c hc
  rcases List.mem_append.mp hc with h | h
  · left; exact List.eq_of_mem_replicate h
  · exact binDigits_chars _ _ c h

theorem strIsBinary_of_chars (s : List Nat) (h : ∀ c ∈ s, c = 48 ∨ c = 49) : strIsBinary s = true := by
  cases s with
  | nil => rfl
  | cons c t =>
    unfold strIsBinary
    have hc := h c (by simp)
    have ht : t.all (fun c => decide (c = 48) || decide (c = 49)) = true := by
      rw [List.all_eq_true]; intro x hx
      rcases h x (by simp [hx]) with h1 | h1 <;> simp [h1]
    rcases hc with h1 | h1 <;> simp [h1, ht]

/-- **flag tables**: the binary text reads back as the value -/
theorem binaryToInt_printBinary (v : Int) (n : Int) (h0 : 0 ≤ v) (h1 : v < 2 ^ 63) (hn : n ≤ 64) :
    binaryToInt (printBinary v n) = v := by
  have hch := printBinary_chars v n h0
  unfold binaryToInt
  rw [strIsBinary_of_chars _ hch]
  simp only [Bool.not_true, Bool.false_eq_true, if_false]
  have hv63 : v.toNat < 2 ^ 63 := by omega
  have hlen : (binDigits 64 v.toNat).length ≤ 63 := binDigits_length 64 _ 63 hv63
  have hval : binVal (printBinary v n) = v.toNat := by
    unfold printBinary
    rw [if_neg (by omega), binVal_append, binVal_zeros,
      binDigits_val 64 _ (lt_trans hv63 (by norm_num))]; simp
  have hl : (printBinary v n).length ≤ 64 := by
    unfold printBinary
    rw [if_neg (by omega)]
    simp only [List.length_append, List.length_replicate]
    omega
  rw [if_neg (by omega), hval]
  unfold castToI64
  rw [if_pos hv63]; omega

/-- characters of an unquoted value token: digits, `-`, `.`, `+`, `E`, and the letters of `MSNG` -/
def isTokChar (c : Nat) : Bool :=
  isDigit c || c = 45 || c = 46 || c = 43 || c = 69 || c = 77 || c = 83 || c = 78 || c = 71

theorem fmtInt_digits (v : Int) : ∀ c ∈ fmtInt v, c = 45 ∨ isDigit c = true := by
  intro c hc
  unfold fmtInt at hc
  split_ifs at hc
  · exact (List.mem_cons.mp hc).imp id (decNat_digits _ c)
  · exact Or.inr (decNat_digits _ c hc)

theorem fmtInt_ne_nil (v : Int) : fmtInt v ≠ [] := by
  unfold fmtInt; split_ifs <;> simp [decNat_ne_nil]

theorem fmtF_ne_nil (k : Nat) (q : ℚ) : fmtF k q ≠ [] := by
  unfold fmtF
  simp only
  intro h
  have := List.append_eq_nil_iff.mp h
  have := List.append_eq_nil_iff.mp this.1
  exact decNat_ne_nil _ this.2

theorem B_MSNG : B "MSNG" = [77, 83, 78, 71] := by decide

/-- an INT32/INT64 element that is not a flag table reads back the integer `%d`/`%lld` printed -/
theorem intOfTok_fmtInt (v : Int) (h0 : -(2:Int) ^ 63 ≤ v) (h1 : v < 2 ^ 63) : intOfTok false (fmtInt v) = v := by
  have hat := atol_fmtInt v h0 h1
  obtain ⟨c, t, hct⟩ := List.exists_cons_of_ne_nil (fmtInt_ne_nil v)
  -- the first character is a digit or `-`: none of `M`, `i`, `o`, `x`, `b`
  have hc : c ≤ 57 := by
    have := (fmtInt_digits v c (by rw [hct]; simp)).imp_right isDigit_iff.mp
    omega
  unfold intOfTok
  rw [hct] at hat ⊢
  rw [if_neg (by rw [B_MSNG]; intro h; simp at h; omega)]
  simp only [Bool.false_and, Bool.false_eq_true, if_false]
  split
  · next r heq => simp at heq; omega
  · next r heq => simp at heq; omega
  · next r heq => simp at heq; omega
  · next r heq => simp at heq; omega
  · exact hat

theorem intOfTok_printBinary (v : Int) (n : Int) (h0 : 0 ≤ v) (h1 : v < 2 ^ 63) (hn : n ≤ 64) :
    intOfTok true (printBinary v n) = v := by
  have hch := printBinary_chars v n h0
  unfold intOfTok
  have hne : printBinary v n ≠ B "MSNG" := by
    rw [B_MSNG]; intro h
    have := hch 77 (by rw [h]; simp)
    omega
  rw [if_neg hne, strIsBinary_of_chars _ hch]
  simp only [Bool.and_self, if_true]
  exact binaryToInt_printBinary v n h0 h1 hn

theorem cutLastQuote_append (s : List Nat) (hs : s ≠ []) : cutLastQuote (s ++ [34]) = s := by
  unfold cutLastQuote
  simp only [List.reverse_append, List.reverse_cons, List.reverse_nil, List.nil_append, List.singleton_append,
    List.dropWhile_cons, ne_eq, not_true_eq_false, decide_false, Bool.false_eq_true, if_false]
  have : (34 :: s.reverse).length ≥ 2 := by
    have := List.length_pos_of_ne_nil hs
    simp; omega
  rw [if_pos this]
  simp

theorem strtok_tok (delims pre tok rest : List Nat) (hp : ∀ c ∈ pre, c ∈ delims) (hne : tok ≠ [])
    (ht : ∀ c ∈ tok, c ∉ delims) (hr : ∀ d, rest.head? = some d → d ∈ delims) :
    strtok delims (pre ++ (tok ++ rest)) = some (tok, rest.drop 1) := by
  obtain ⟨c, t, rfl⟩ := List.exists_cons_of_ne_nil hne
  have h1 : (pre ++ (c :: t ++ rest)).dropWhile (delims.contains ·) = c :: t ++ rest :=
    dropWhile_append_stop _ pre _ (fun x hx => by simp [hp x hx])
      (fun x hx => by simp at hx; subst hx; simp [ht])
  have h2 : (c :: t ++ rest).takeWhile (fun c => !delims.contains c) = c :: t :=
    takeWhile_append_stop _ (c :: t) rest (fun x hx => by simp [ht x hx]) (fun x hx => by simp [hr x hx])
  simp only [strtok, h1, h2]
  simp

theorem strtok_nil (delims : List Nat) : strtok delims [] = none := by simp [strtok]

theorem isSpace_blanks (k : Nat) : ∀ x ∈ List.replicate k 32, isSpace x = true :=
  fun x hx => by rw [List.eq_of_mem_replicate hx]; rfl

theorem rstrip_nonspace (a : List Nat) (c : Nat) (ws : List Nat) (hc : isSpace c = false)
    (hws : ∀ x ∈ ws, isSpace x = true) : rstrip (a ++ c :: ws) = a ++ [c] := by
  unfold rstrip
  have : (a ++ c :: ws).reverse = ws.reverse ++ c :: a.reverse := by simp
  rw [this, dropWhile_append_stop isSpace ws.reverse (c :: a.reverse)
    (fun x hx => hws x (List.mem_reverse.mp hx)) (by rintro x ⟨⟩; exact hc)]
  simp

/-- the meta text the library writes between descriptor and value: `{…}` blocks, each followed
by any number of blanks -/
def renderMeta : List (List Nat × Nat) → List Nat
  | [] => []
  | (b, sp) :: r => 123 :: (b ++ 125 :: (List.replicate sp 32 ++ renderMeta r))

/-- a block may hold anything but `}` (and the bytes that end a line or a C string) -/
def BlockOK (b : List Nat) : Prop := ∀ c ∈ b, c ≠ 125 ∧ c ≠ 10 ∧ c ≠ 0

theorem skipMeta_block (f : Nat) (s b rest : List Nat) (h1 : s.dropWhile isSpace = 123 :: (b ++ 125 :: rest))
    (hb : ∀ c ∈ b, c ≠ 125) : skipMeta (f + 1) s = skipMeta f rest := by
  have h2 : (123 :: (b ++ 125 :: rest)).takeWhile (· ≠ 125) = 123 :: b := by
    have := takeWhile_append_stop (· ≠ 125) (123 :: b) (125 :: rest)
      (by intro x hx; simp at hx; rcases hx with rfl | hx
          · simp
          · simp [hb x hx])
      (by rintro x ⟨⟩; simp)
    simpa using this
  simp only [skipMeta, h1, h2]
  have h3 : (123 :: b).length < (123 :: (b ++ 125 :: rest)).length := by simp
  rw [if_pos h3]
  congr 1
  simp [List.drop_append]

theorem skipMeta_stop (f : Nat) (s : List Nat) (h : ∀ c, (s.dropWhile isSpace).head? = some c → c ≠ 123) :
    skipMeta (f + 1) s = s := by
  simp only [skipMeta]
  split
  · next t heq => exact absurd rfl (h 123 (by rw [heq]; rfl))
  · rfl

theorem skipMeta_render (L : List (List Nat × Nat)) (hL : ∀ p ∈ L, BlockOK p.1) (u : List Nat)
    (hu : ∀ c, u.head? = some c → isSpace c = false ∧ c ≠ 123) (f : Nat) (hf : L.length < f) (sp0 : Nat) :
    ∃ sp, skipMeta f (List.replicate sp0 32 ++ (renderMeta L ++ u)) = List.replicate sp 32 ++ u := by
  induction L generalizing f sp0 with
  | nil =>
    obtain ⟨f', rfl⟩ : ∃ f', f = f' + 1 := ⟨f - 1, by simp at hf; omega⟩
    refine ⟨sp0, ?_⟩
    simp only [renderMeta, List.nil_append]
    apply skipMeta_stop
    rw [dropWhile_append_stop isSpace _ u (isSpace_blanks sp0) (fun x hx => (hu x hx).1)]
    intro c hc; exact (hu c hc).2
  | cons p r ih =>
    obtain ⟨b, sp⟩ := p
    obtain ⟨f', rfl⟩ : ∃ f', f = f' + 1 := ⟨f - 1, by simp at hf; omega⟩
    have hb : BlockOK b := hL (b, sp) (by simp)
    have h1 : (List.replicate sp0 32 ++ (renderMeta ((b, sp) :: r) ++ u)).dropWhile isSpace
        = 123 :: (b ++ 125 :: (List.replicate sp 32 ++ (renderMeta r ++ u))) := by
      rw [dropWhile_append_stop isSpace _ _ (isSpace_blanks sp0) (by intro x hx; simp [renderMeta] at hx; subst hx; rfl)]
      simp [renderMeta]
    rw [skipMeta_block f' _ b _ h1 (fun c hc => (hb c hc).1)]
    exact ih (fun p hp => hL p (by simp [hp])) f' (by simp at hf; omega) sp

theorem isTokChar_facts (c : Nat) (h : isTokChar c = true) :
    isSpace c = false ∧ c ∉ [32, 9, 10, 13, 61] ∧ c ≠ 34 ∧ c ≠ 40 ∧ c ≠ 123 ∧ c ≠ 10 ∧ c ≠ 0 := by
  unfold isTokChar isDigit at h
  unfold isSpace
  simp at h ⊢
  omega

theorem fmtD6_nat (d : Nat) : fmtD6 (d : Int) = zpad 6 (decNat d) := by
  unfold fmtD6; simp

theorem fmtD6_chars (d : Nat) : ∀ c ∈ fmtD6 (d : Int), isDigit c = true := by
  rw [fmtD6_nat]; exact zpad_digits 6 _ (decNat_digits d)

theorem fmtD6_ne_nil (d : Nat) : fmtD6 (d : Int) ≠ [] := by
  rw [fmtD6_nat]; unfold zpad; intro h
  exact decNat_ne_nil d (List.append_eq_nil_iff.mp h).2

theorem atoi_fmtD6 (d : Nat) (hd : d < 2 ^ 31) : atoi (fmtD6 (d : Int)) = d := by
  obtain ⟨c, t, hct⟩ := List.exists_cons_of_ne_nil (fmtD6_ne_nil d)
  have hdig := fmtD6_chars d
  unfold atoi
  rw [hct] at hdig ⊢
  rw [strtol_digits c t hdig, ← hct, fmtD6_nat, digitsVal_zpad, digitsVal_decNat]
  have : ¬ ((d : Int) > 2 ^ 63 - 1) := by omega
  rw [if_neg this]
  exact wrapI32_of_range _ (by omega) (by exact_mod_cast hd)

theorem strtok_descriptor (d : Nat) (body : List Nat) :
    strtok [32, 9, 10, 13, 44, 61] (fmtD6 (d : Int) ++ 32 :: body) = some (fmtD6 (d : Int), body) :=
  strtok_tok _ [] _ (32 :: body) (by simp) (fmtD6_ne_nil d)
    (fun c hc => by have := isDigit_iff.mp (fmtD6_chars d c hc); simp; omega) (by simp)

/-- the text of the associated field of a line, if any -/
def afText : Option (Nat × Nat) → List Nat
  | none => []
  | some (bits, w) => printAf bits w

/-- unquoted value token: not empty, made of digits, sign, point, exponent letter or `MSNG` -/
def CleanTok (V : List Nat) : Prop := V ≠ [] ∧ ∀ c ∈ V, isTokChar c = true

/-- hexadecimal digits: `0`…`9`, `a`…`f` -/
theorem hexNat_chars (b : Nat) : ∀ c ∈ hexNat b, 48 ≤ c ∧ c ≤ 102 ∧ c ≠ 58 := by
  intro c hc
  unfold hexNat at hc
  rw [hexRev_eq] at hc
  simp only [List.mem_reverse, List.mem_map] at hc
  obtain ⟨d, hd, rfl⟩ := hc
  have := hexRevV_lt _ _ d hd
  unfold hexDig
  split_ifs <;> omega

theorem hexNat_ne_nil (b : Nat) : hexNat b ≠ [] := by
  unfold hexNat; simp [hexRev]

/-- the associated-field step of `parseLine`: `p1` is the text after the meta blocks, `p2` the same
without leading blanks -/
def afStep (p1 p2 : List Nat) : Option (Option Nat) × List Nat :=
  match p2 with
  | 40 :: _ =>
    (match strtok [32, 9, 10, 13, 40, 41, 58] p1 with
     | none => (some none, [])
     | some (t, rest) =>
       let r2 := rest.dropWhile (· ≠ 41)
       let r3 := match r2 with | 41 :: r => r | _ => r2
       (some (scanHex t), r3.dropWhile isSpace))
  | _ => (none, p2)

/-- the value step of `parseLine` -/
def valStep (icode : Int) (af : Option (Option Nat)) (p3 : List Nat) : Option Rec :=
  match p3 with
  | 34 :: q =>
    (match strtok [10, 13] q with
     | none => some { icode := icode, af := af, tok := none, quoted := true }
     | some (t, _) => some { icode := icode, af := af, tok := some (cutLastQuote t), quoted := true })
  | _ => some { icode := icode, af := af, tok := (strtok [32, 9, 10, 13, 61] p3).map (·.1) }

theorem parseLine_desc (d : Nat) (hd : d < 2 ^ 31) (body : List Nat) :
    parseLine (fmtD6 (d : Int) ++ 32 :: body) =
      (let p1 := skipMeta ((fmtD6 (d : Int) ++ 32 :: body).length + 1) (rstrip body)
       let afp := afStep p1 (p1.dropWhile isSpace)
       valStep d afp.1 afp.2) := by
  unfold parseLine
  rw [strtok_descriptor]
  simp only [atoi_fmtD6 d hd]
  rfl

theorem afStep_none (p1 p2 : List Nat) (h : ∀ t, p2 ≠ 40 :: t) : afStep p1 p2 = (none, p2) := by
  unfold afStep
  split
  · next t => exact absurd rfl (h t)
  · rfl

theorem printAf_eq (bits wd : Nat) :
    printAf bits wd = 40 :: 48 :: 120 :: (hexNat bits ++ 58 :: (decNat wd ++ [98, 105, 116, 115, 41])) := by
  unfold printAf
  rw [show B "(0x" = [40, 48, 120] by decide, show B ":" = [58] by decide,
    show B "bits)" = [98, 105, 116, 115, 41] by decide]
  simp

theorem afStep_af (sp bits wd : Nat) (hb : bits < 2 ^ 64) (w : List Nat)
    (hw : ∀ c, w.head? = some c → isSpace c = false) :
    afStep (List.replicate sp 32 ++ (printAf bits wd ++ w)) (printAf bits wd ++ w) = (some (some bits), w) := by
  -- `strtok_r(NULL, " \t\n\r():", &ptr)` from the blanks: the token is `0x…`, up to the colon
  have htok : strtok [32, 9, 10, 13, 40, 41, 58] (List.replicate sp 32 ++ (printAf bits wd ++ w)) =
      some (48 :: 120 :: hexNat bits, decNat wd ++ [98, 105, 116, 115] ++ 41 :: w) := by
    rw [printAf_eq, show List.replicate sp 32 ++ (40 :: 48 :: 120 :: (hexNat bits ++ 58 :: (decNat wd ++ [98, 105, 116, 115, 41])) ++ w) =
      (List.replicate sp 32 ++ [40]) ++ ((48 :: 120 :: hexNat bits) ++ 58 :: (decNat wd ++ [98, 105, 116, 115] ++ 41 :: w)) by simp]
    refine strtok_tok _ _ _ _ ?_ (by simp) ?_ (by simp)
    · simp only [List.forall_mem_append, List.forall_mem_singleton]
      exact ⟨fun c hc => by rw [List.eq_of_mem_replicate hc]; simp, by simp⟩
    · simp only [List.forall_mem_cons]
      exact ⟨by simp, by simp, fun c hc => by have := hexNat_chars bits c hc; simp; omega⟩
  have hd1 : (decNat wd ++ [98, 105, 116, 115] ++ 41 :: w).dropWhile (· ≠ 41) = 41 :: w := by
    apply dropWhile_append_stop
    · simp only [List.forall_mem_append]
      exact ⟨fun x hx => by have := isDigit_iff.mp (decNat_digits wd x hx); simp; omega, by decide⟩
    · simp
  obtain ⟨t, ht⟩ : ∃ t, printAf bits wd ++ w = 40 :: t := ⟨_, by rw [printAf_eq]; rfl⟩
  unfold afStep
  rw [ht]
  simp only
  rw [← ht, htok]
  simp only [scanHex_hexNat bits hb, hd1]
  congr 1
  cases w with
  | nil => rfl
  | cons c t => simp [hw c rfl]

theorem valStep_plain (icode : Int) (af : Option (Option Nat)) (V : List Nat) (hne : V ≠ [])
    (hV : ∀ c ∈ V, isTokChar c = true) :
    valStep icode af V = some { icode := icode, af := af, tok := some V, quoted := false } := by
  obtain ⟨cv, tv, hVh⟩ := List.exists_cons_of_ne_nil hne
  have hcv := isTokChar_facts cv (hV cv (by rw [hVh]; simp))
  have htok : strtok [32, 9, 10, 13, 61] V = some (V, []) := by
    simpa using strtok_tok _ [] V [] (by simp) hne (fun c hc => (isTokChar_facts c (hV c hc)).2.1) (by simp)
  unfold valStep
  rw [hVh]
  split
  · next q heq => simp at heq; exact absurd heq.1 hcv.2.2.1
  · rw [← hVh, htok]; rfl

theorem valStep_quoted (icode : Int) (af : Option (Option Nat)) (str : List Nat) (hne : str ≠ [])
    (hs : ∀ c ∈ str, c ≠ 10 ∧ c ≠ 13) :
    valStep icode af (34 :: (str ++ [34])) = some { icode := icode, af := af, tok := some str, quoted := true } := by
  have htok : strtok [10, 13] (str ++ [34]) = some (str ++ [34], []) := by
    simpa using strtok_tok [10, 13] [] (str ++ [34]) [] (by simp) (by simp)
      (List.forall_mem_append.mpr ⟨fun c hc => by have := hs c hc; simp; omega, by simp⟩) (by simp)
  simp only [valStep, htok, cutLastQuote_append str hne]

theorem valStep_nil (icode : Int) (af : Option (Option Nat)) :
    valStep icode af [] = some { icode := icode, af := af, tok := none } := by
  simp [valStep, strtok_nil]

theorem renderMeta_length (L : List (List Nat × Nat)) : L.length ≤ (renderMeta L).length := by
  induction L with
  | nil => simp
  | cons p r ih => obtain ⟨b, sp⟩ := p; simp [renderMeta]; omega

theorem renderMeta_append (A C : List (List Nat × Nat)) : renderMeta (A ++ C) = renderMeta A ++ renderMeta C := by
  induction A with
  | nil => rfl
  | cons p r ih => simp [renderMeta, ih]

/-- trailing white space after the meta text of a line without value: the last block's blanks go -/
theorem rstrip_render (L : List (List Nat × Nat)) (hL : ∀ p ∈ L, BlockOK p.1) :
    ∃ L', rstrip (renderMeta L ++ [10]) = renderMeta L' ∧ (∀ p ∈ L', BlockOK p.1) ∧ L'.length = L.length := by
  rcases List.eq_nil_or_concat L with rfl | ⟨init, ⟨b, sp⟩, rfl⟩
  · exact ⟨[], by decide, by simp, rfl⟩
  · rw [List.concat_eq_append] at hL ⊢
    refine ⟨init ++ [(b, 0)], ?_, ?_, by simp⟩
    · rw [renderMeta_append, renderMeta_append,
        show renderMeta init ++ renderMeta [(b, sp)] ++ [10] =
          (renderMeta init ++ 123 :: b) ++ 125 :: (List.replicate sp 32 ++ [10]) by simp [renderMeta],
        rstrip_nonspace _ 125 _ rfl (List.forall_mem_append.mpr ⟨isSpace_blanks sp, by decide⟩)]
      simp [renderMeta]
    · simp only [List.forall_mem_append, List.forall_mem_singleton] at hL ⊢
      exact hL

/-- a line without value: descriptor, optional meta text, nothing else (also the line of a
SKIPPED node, which has no meta text) -/
theorem parseLine_novalue (d : Nat) (hd : d < 2 ^ 31) (L : List (List Nat × Nat)) (hL : ∀ p ∈ L, BlockOK p.1) :
    parseLine (fmtD6 (d : Int) ++ 32 :: (renderMeta L ++ [10])) = some { icode := (d : Int) } := by
  rw [parseLine_desc d hd]
  obtain ⟨L', h1, h2, h3⟩ := rstrip_render L hL
  have hfuel : L'.length < (fmtD6 (d : Int) ++ 32 :: (renderMeta L ++ [10])).length + 1 := by
    have := renderMeta_length L
    simp only [List.length_append, List.length_cons]; omega
  obtain ⟨sp, hsk⟩ := skipMeta_render L' h2 [] (by simp) _ hfuel 0
  simp only [List.replicate_zero, List.nil_append, List.append_nil] at hsk
  simp only [h1, hsk]
  have : (List.replicate sp 32).dropWhile isSpace = [] := by
    simpa using dropWhile_append_stop isSpace (List.replicate sp 32) [] (isSpace_blanks sp) (by simp)
  rw [this, afStep_none _ [] (by simp), valStep_nil]

theorem afText_head (a : Option (Nat × Nat)) (w : List Nat) (c : Nat) (h : (afText a ++ w).head? = some c)
    (hw : ∀ c, w.head? = some c → isSpace c = false ∧ c ≠ 123) : isSpace c = false ∧ c ≠ 123 := by
  cases a with
  | none => exact hw c (by simpa [afText] using h)
  | some p =>
    obtain ⟨bits, wd⟩ := p
    simp only [afText, printAf_eq] at h
    simp at h; subst h; exact ⟨rfl, by decide⟩

theorem afStep_of_line (d : Nat) (L : List (List Nat × Nat)) (hL : ∀ p ∈ L, BlockOK p.1)
    (a : Option (Nat × Nat)) (ha : ∀ p, a = some p → p.1 < 2 ^ 64) (V0 : List Nat) (cf cl : Nat)
    (V : List Nat) (hVf : ∃ t, V = cf :: t) (hVl : V = V0 ++ [cl])
    (hcf : isSpace cf = false ∧ cf ≠ 123 ∧ cf ≠ 40) (hcl : isSpace cl = false) :
    (let p1 := skipMeta ((fmtD6 (d : Int) ++ 32 :: (renderMeta L ++ (afText a ++ V) ++ [10])).length + 1)
        (rstrip (renderMeta L ++ (afText a ++ V) ++ [10]))
     afStep p1 (p1.dropWhile isSpace)) = (a.map (fun p => some p.1), V) := by
  obtain ⟨tv, hVh⟩ := hVf
  have hrs : rstrip (renderMeta L ++ (afText a ++ V) ++ [10]) = renderMeta L ++ (afText a ++ V) := by
    rw [hVl, show renderMeta L ++ (afText a ++ (V0 ++ [cl])) ++ [10] = (renderMeta L ++ (afText a ++ V0)) ++ cl :: [10] by simp,
      rstrip_nonspace _ cl [10] hcl (by decide)]
    simp
  have hVhead : ∀ c, V.head? = some c → isSpace c = false ∧ c ≠ 123 := by
    intro c hc; rw [hVh] at hc; simp at hc; subst hc; exact ⟨hcf.1, hcf.2.1⟩
  have hfuel : L.length < (fmtD6 (d : Int) ++ 32 :: (renderMeta L ++ (afText a ++ V) ++ [10])).length + 1 := by
    have := renderMeta_length L
    simp only [List.length_append, List.length_cons]; omega
  obtain ⟨sp, hsk⟩ := skipMeta_render L hL (afText a ++ V) (fun c hc => afText_head a V c hc hVhead) _ hfuel 0
  simp only [List.replicate_zero, List.nil_append] at hsk
  simp only [hrs, hsk]
  have hp2 : (List.replicate sp 32 ++ (afText a ++ V)).dropWhile isSpace = afText a ++ V :=
    dropWhile_append_stop isSpace _ _ (isSpace_blanks sp) (fun x hx => (afText_head a V x hx hVhead).1)
  rw [hp2]
  cases a with
  | none =>
    simp only [afText, List.nil_append, Option.map_none]
    exact afStep_none _ V (by intro t ht; rw [hVh] at ht; simp at ht; exact hcf.2.2 ht.1)
  | some p =>
    obtain ⟨bits, wd⟩ := p
    simp only [afText, Option.map_some]
    exact afStep_af sp bits wd (ha (bits, wd) rfl) V (fun c hc => (hVhead c hc).1)

theorem parseLine_value (d : Nat) (hd : d < 2 ^ 31) (L : List (List Nat × Nat)) (hL : ∀ p ∈ L, BlockOK p.1)
    (a : Option (Nat × Nat)) (ha : ∀ p, a = some p → p.1 < 2 ^ 64) (V : List Nat) (hV : CleanTok V) :
    parseLine (fmtD6 (d : Int) ++ 32 :: (renderMeta L ++ (afText a ++ V) ++ [10])) =
      some { icode := (d : Int), af := a.map (fun p => some p.1), tok := some V, quoted := false } := by
  rw [parseLine_desc d hd]
  obtain ⟨hVne, hVc⟩ := hV
  obtain ⟨cv, tv, hVh⟩ := List.exists_cons_of_ne_nil hVne
  have hcv := isTokChar_facts cv (hVc cv (by rw [hVh]; simp))
  have hcl := (isTokChar_facts (V.getLast hVne) (hVc _ (List.getLast_mem hVne))).1
  have := afStep_of_line d L hL a ha V.dropLast cv (V.getLast hVne) V ⟨tv, hVh⟩
    (List.dropLast_append_getLast hVne).symm ⟨hcv.1, hcv.2.2.2.2.1, hcv.2.2.2.1⟩ hcl
  simp only at this ⊢
  rw [this]
  exact valStep_plain _ _ V hVne hVc

/-- **a line with a quoted string**: blanks, quotes, braces, parentheses inside the string are kept -/
theorem parseLine_quoted (d : Nat) (hd : d < 2 ^ 31) (L : List (List Nat × Nat)) (hL : ∀ p ∈ L, BlockOK p.1)
    (a : Option (Nat × Nat)) (ha : ∀ p, a = some p → p.1 < 2 ^ 64) (str : List Nat) (hne : str ≠ [])
    (hs : ∀ c ∈ str, c ≠ 10 ∧ c ≠ 13) :
    parseLine (fmtD6 (d : Int) ++ 32 :: (renderMeta L ++ (afText a ++ (34 :: (str ++ [34]))) ++ [10])) =
      some { icode := (d : Int), af := a.map (fun p => some p.1), tok := some str, quoted := true } := by
  rw [parseLine_desc d hd]
  have := afStep_of_line d L hL a ha (34 :: str) 34 34 (34 :: (str ++ [34])) ⟨_, rfl⟩ (by simp)
    ⟨rfl, by decide, by decide⟩ rfl
  simp only at this ⊢
  rw [this]
  exact valStep_quoted _ _ str hne hs

theorem fgetsAux_line (f : Nat) (acc body s : List Nat) (hb : ∀ c ∈ body, c ≠ 10) (hf : body.length < f) :
    fgetsAux f acc (body ++ 10 :: s) = (acc.reverse ++ body ++ [10], s) := by
  induction body generalizing f acc with
  | nil =>
    obtain ⟨f', rfl⟩ : ∃ f', f = f' + 1 := ⟨f - 1, by simp at hf; omega⟩
    simp [fgetsAux]
  | cons c t ih =>
    obtain ⟨f', rfl⟩ : ∃ f', f = f' + 1 := ⟨f - 1, by simp at hf; omega⟩
    have hc : c ≠ 10 := (hb c (by simp))
    simp only [List.cons_append, fgetsAux, hc, if_false]
    rw [ih f' (c :: acc) (fun x hx => hb x (by simp [hx])) (by simp at hf; omega)]
    simp

/-- `fgets` returns a whole line: no line feed or NUL inside, and short enough for the 2048-byte buffer -/
theorem fgets_line (b s : List Nat) (hb : ∀ x ∈ b, x ≠ 10 ∧ x ≠ 0) (hlen : b.length + 1 ≤ 2047) :
    fgets (b ++ 10 :: s) = some (b ++ [10], s) := by
  unfold fgets
  have : (b ++ 10 :: s).isEmpty = false := by cases b <;> rfl
  rw [this, if_neg Bool.false_ne_true, fgetsAux_line 2047 [] b s (fun x hx => (hb x hx).1) (by omega)]
  rfl

theorem cstr_of_no_nul (l : List Nat) (h : ∀ c ∈ l, c ≠ 0) : cstr l = l := by
  unfold cstr
  exact takeWhile_all _ l (by intro x hx; simp [h x hx])

theorem cstr_line (b : List Nat) (hb : ∀ x ∈ b, x ≠ 10 ∧ x ≠ 0) : cstr (b ++ [10]) = b ++ [10] :=
  cstr_of_no_nul _ (by
    intro x hx
    rcases List.mem_append.mp hx with h | h
    · exact (hb x h).2
    · rw [List.mem_singleton.mp h]; decide)

theorem unread_line (b s : List Nat) (hb : ∀ x ∈ b, x ≠ 10 ∧ x ≠ 0) : unread (b ++ [10]) s = b ++ 10 :: s := by
  unfold unread; rw [cstr_line b hb]; simp

/-- the associated field a printed line carries -/
def afOf (n : Node) : Option (Option Nat) := if hasAf n then some (some n.afBits) else none

/-- what the line printed for a node says -/
def recOf (trim : Bool) (n : Node) : Rec :=
  if n.flags.skipped || !n.val.isSome then { icode := n.desc }
  else match n.val with
    | .str bs => { icode := n.desc, af := afOf n, tok := some (cstr bs), quoted := true }
    | _ => { icode := n.desc, af := afOf n, tok := some (printDscptrValue trim n), quoted := false }

/-- the placeholders of a replication that occurred zero times are written as comments -/
def isComment (n : Node) : Bool := n.flags.skipped && n.flags.ignored && !n.flags.expanded

/-- the printed line of a node is one the reader holds whole, and it parses to `recOf` -/
structure LineOK (trim : Bool) (mt : List Nat) (n : Node) : Prop where
  body : ∃ b, printNode trim mt n = b ++ [10] ∧ (∀ c ∈ b, c ≠ 10 ∧ c ≠ 0) ∧ b.length + 1 ≤ 2047
  headC : isComment n = true → ∃ t, printNode trim mt n = 35 :: t
  headD : isComment n = false → ∃ c t, printNode trim mt n = c :: t ∧ isDigit c = true
  parse : isComment n = false → parseLine (printNode trim mt n) = some (recOf trim n)

/-- the loader's walk over the nodes of one printed subset, text left out: every line that is not
a comment is handed to `loadLine` as the record `recOf` -/
def walk (T : Tables) (edition fuel : Nat) (trim : Bool) : LdSt → List Node → Option LdSt
  | st, [] => some st
  | st, n :: ns =>
    if isComment n then walk T edition fuel trim st ns
    else match loadLine T edition fuel st (recOf trim n) with
      | .next st' => walk T edition fuel trim st' ns
      | _ => none

theorem startsWith_cons_ne (a b : Nat) (p s : List Nat) (h : a ≠ b) : startsWith (a :: p) (b :: s) = false := by
  unfold startsWith
  simp [h.symm]

theorem startsWith_self_append (p t : List Nat) : startsWith p (p ++ t) = true := by
  unfold startsWith; simp

theorem B_be : B "BUFR_EDITION=" = [66, 85, 70, 82, 95, 69, 68, 73, 84, 73, 79, 78, 61] := by decide +kernel

theorem B_ds : B "DATASUBSET" = [68, 65, 84, 65, 83, 85, 66, 83, 69, 84] := by decide +kernel

/-- one step of `bufr_load_datasubsets` on a line that is neither a comment nor a key line -/
theorem loadSubsets_data (T : Tables) (ed fuel : Nat) (bsq : List Node) (f : Nat) (cur : Option LdSt)
    (acc : List (List Node)) (inv : Bool) (b s : List Nat) (c : Nat) (t : List Nat)
    (hb : ∀ x ∈ b, x ≠ 10 ∧ x ≠ 0) (hlen : b.length + 1 ≤ 2047) (hct : b ++ [10] = c :: t)
    (hc : c ≠ 35 ∧ c ≠ 42 ∧ c ≠ 66 ∧ c ≠ 68) :
    loadSubsets T ed fuel bsq (f + 1) cur acc inv (b ++ 10 :: s) =
      (match parseLine (b ++ [10]) with
       | none =>
         loadSubsets T ed fuel bsq f (cur.map fun st => { st with ddo := some (st.ddo.getD { enforce := .strict }) }) acc inv s
       | some r =>
         match cur with
         | none => { status := 0, subsets := acc.reverse, invalid := inv, rest := s }
         | some st =>
           match loadLine T ed fuel st r with
           | .next st' => loadSubsets T ed fuel bsq f (some st') acc inv s
           | .stop st' =>
             { status := 1, subsets := (finishSubset T fuel st' :: acc).reverse, invalid := inv || st'.invalid, rest := s }
           | .fail => { status := -1, subsets := acc.reverse, invalid := inv || st.invalid, rest := s }) := by
  rw [loadSubsets, fgets_line b s hb hlen]
  simp only [cstr_line b hb]
  simp only [hct, List.head?_cons, Option.some.injEq, hc.1, hc.2.1, or_self, if_false, B_be, B_ds,
    startsWith_cons_ne 66 c _ _ (Ne.symm hc.2.2.1), startsWith_cons_ne 68 c _ _ (Ne.symm hc.2.2.2), Bool.false_eq_true]
  cases parseLine (c :: t) with
  | none => rfl
  | some r =>
    cases cur with
    | none => rfl
    | some st =>
      simp only
      cases loadLine T ed fuel st r <;> rfl

theorem loadSubsets_comment (T : Tables) (ed fuel : Nat) (bsq : List Node) (f : Nat) (cur : Option LdSt)
    (acc : List (List Node)) (inv : Bool) (b s t : List Nat)
    (hb : ∀ x ∈ b, x ≠ 10 ∧ x ≠ 0) (hlen : b.length + 1 ≤ 2047) (hct : b ++ [10] = 35 :: t) :
    loadSubsets T ed fuel bsq (f + 1) cur acc inv (b ++ 10 :: s) = loadSubsets T ed fuel bsq f cur acc inv s := by
  rw [loadSubsets, fgets_line b s hb hlen]
  simp only [cstr_line b hb]
  simp only [hct, List.head?_cons, true_or, if_true]

theorem loadSubsets_nodes (T : Tables) (ed fuel : Nat) (bsq : List Node) (trim : Bool)
    (acc : List (List Node)) (inv : Bool) (nodes : List (Node × List Nat))
    (hok : ∀ p ∈ nodes, LineOK trim p.2 p.1) (st st' : LdSt)
    (hw : walk T ed fuel trim st (nodes.map (·.1)) = some st') (f : Nat) (s : List Nat) :
    loadSubsets T ed fuel bsq (f + nodes.length) (some st) acc inv
        (nodes.flatMap (fun p => printNode trim p.2 p.1) ++ s) =
      loadSubsets T ed fuel bsq f (some st') acc inv s := by
  induction nodes generalizing st with
  | nil => simp [walk] at hw; subst hw; simp
  | cons p r ih =>
    obtain ⟨n, mt⟩ := p
    have hl := hok (n, mt) (by simp)
    obtain ⟨b, hb1, hb2, hb3⟩ := hl.body
    simp only [List.flatMap_cons, List.length_cons, List.map_cons, walk] at hw ⊢
    rw [show f + (r.length + 1) = (f + r.length) + 1 by omega, hb1,
      show b ++ [10] ++ List.flatMap (fun p => printNode trim p.2 p.1) r ++ s =
        b ++ 10 :: (List.flatMap (fun p => printNode trim p.2 p.1) r ++ s) by simp]
    by_cases hcm : isComment n = true
    · rw [if_pos hcm] at hw
      obtain ⟨t, ht⟩ := hl.headC hcm
      rw [loadSubsets_comment T ed fuel bsq _ _ acc inv b _ t hb2 hb3 (by rw [← hb1]; exact ht)]
      exact ih (fun p hp => hok p (by simp [hp])) st hw
    · have hcm' : isComment n = false := by simpa using hcm
      rw [if_neg hcm] at hw
      obtain ⟨c, t, hct, hcd⟩ := hl.headD hcm'
      have hc : c ≠ 35 ∧ c ≠ 42 ∧ c ≠ 66 ∧ c ≠ 68 := by
        rw [isDigit_iff] at hcd
        omega
      rw [loadSubsets_data T ed fuel bsq _ (some st) acc inv b _ c t hb2 hb3 (by rw [← hb1]; exact hct) hc,
        ← hb1, hl.parse hcm']
      simp only
      cases hll : loadLine T ed fuel st (recOf trim n) with
      | next st1 =>
        rw [hll] at hw
        simp only at hw ⊢
        exact ih (fun p hp => hok p (by simp [hp])) st1 hw
      | stop st1 => rw [hll] at hw; simp at hw
      | fail => rw [hll] at hw; simp at hw

/-- what `bufr_load_datasubsets` does with the subset being filled when a new one starts or the
text ends: `bufr_mkval_rest_sequence`, `bufr_add_datasubset` -/
def finCur (T : Tables) (fuel : Nat) (cur : Option LdSt) (acc : List (List Node)) (inv : Bool) :
    List (List Node) × Bool :=
  match cur with
  | some st => (finishSubset T fuel st :: acc, inv || st.invalid)
  | none => (acc, inv)

/-- the state after the blank line that ends a subset's block (the operator state exists) -/
def blankAdj (st : LdSt) : LdSt := { st with ddo := some (st.ddo.getD { enforce := .strict }) }

theorem loadSubsets_blank (T : Tables) (ed fuel : Nat) (bsq : List Node) (f : Nat) (st : LdSt)
    (acc : List (List Node)) (inv : Bool) (s : List Nat) :
    loadSubsets T ed fuel bsq (f + 1) (some st) acc inv (10 :: s) =
      loadSubsets T ed fuel bsq f (some (blankAdj st)) acc inv s := by
  have := loadSubsets_data T ed fuel bsq f (some st) acc inv [] s 10 [] (by simp) (by simp) rfl (by decide)
  rw [List.nil_append] at this
  rw [this, show parseLine ([] ++ [10]) = none by decide]
  rfl

def dsLine (i n : Nat) : List Nat := B "DATASUBSET " ++ decNat i ++ B " : " ++ decNat n ++ B " codes\n"

theorem decNat_line (k : Nat) : ∀ x ∈ decNat k, x ≠ 10 ∧ x ≠ 0 := by
  intro x hx
  have := isDigit_iff.mp (decNat_digits k x hx)
  omega

/-- the `DATASUBSET i : n codes` line: the word, a blank, and a short rest (`i, n < 10^9` have at most
nine digits each, which keeps the rest within 30 characters) -/
theorem dsLine_eq (i n : Nat) (hi : i < 10 ^ 9) (hn : n < 10 ^ 9) :
    ∃ r, dsLine i n = B "DATASUBSET" ++ 32 :: (r ++ [10]) ∧ (∀ x ∈ r, x ≠ 10 ∧ x ≠ 0) ∧ r.length ≤ 30 := by
  refine ⟨decNat i ++ [32, 58, 32] ++ decNat n ++ [32, 99, 111, 100, 101, 115], ?_, ?_, ?_⟩
  · unfold dsLine
    rw [show B "DATASUBSET " = B "DATASUBSET" ++ [32] by decide +kernel, show B " : " = [32, 58, 32] by decide +kernel,
      show B " codes\n" = [32, 99, 111, 100, 101, 115, 10] by decide +kernel]
    simp
  · simp only [List.forall_mem_append]
    exact ⟨⟨⟨decNat_line i, by decide⟩, decNat_line n⟩, by decide⟩
  · have := decNat_length i 9 (by norm_num) hi
    have := decNat_length n 9 (by norm_num) hn
    simp; omega

/-- the `DATASUBSET i : n codes` line closes the subset being filled and starts a new one -/
theorem loadSubsets_dsline (T : Tables) (ed fuel : Nat) (bsq : List Node) (f : Nat) (cur : Option LdSt)
    (acc : List (List Node)) (inv : Bool) (i n : Nat) (hi : i < 10 ^ 9) (hn : n < 10 ^ 9) (s : List Nat) :
    loadSubsets T ed fuel bsq (f + 1) cur acc inv (dsLine i n ++ s) =
      loadSubsets T ed fuel bsq f (some { todo := bsq }) (finCur T fuel cur acc inv).1 (finCur T fuel cur acc inv).2 s := by
  obtain ⟨r, he, hr, hl⟩ := dsLine_eq i n hi hn
  have hb : ∀ x ∈ B "DATASUBSET" ++ 32 :: r, x ≠ 10 ∧ x ≠ 0 := by
    simp only [List.forall_mem_append, List.forall_mem_cons]
    exact ⟨by decide +kernel, by decide, hr⟩
  rw [show dsLine i n ++ s = (B "DATASUBSET" ++ 32 :: r) ++ 10 :: s by rw [he]; simp, loadSubsets,
    fgets_line _ s hb (by rw [B_ds]; simp; omega)]
  simp only [cstr_line _ hb]
  simp only [List.append_assoc, startsWith_self_append, if_true]
  simp only [B_ds, B_be, List.cons_append, List.head?_cons, Option.some.injEq, startsWith_cons_ne 66 68 _ _ (by decide)]
  cases cur <;> rfl

theorem loadSubsets_eof (T : Tables) (ed fuel : Nat) (bsq : List Node) (f : Nat) (cur : Option LdSt)
    (acc : List (List Node)) (inv : Bool) :
    loadSubsets T ed fuel bsq (f + 1) cur acc inv [] =
      { status := if cur.isSome then 1 else 0, subsets := (finCur T fuel cur acc inv).1.reverse,
        invalid := (finCur T fuel cur acc inv).2, rest := [] } := by
  rw [loadSubsets]
  simp only [fgets, List.isEmpty_nil, if_true]
  cases cur <;> rfl

/-- the `BUFR_EDITION=` line of the next dataset ends this one and is left in the stream -/
theorem loadSubsets_next (T : Tables) (ed fuel : Nat) (bsq : List Node) (f : Nat) (cur : Option LdSt)
    (acc : List (List Node)) (inv : Bool) (b s : List Nat) (hb : ∀ x ∈ b, x ≠ 10 ∧ x ≠ 0)
    (hlen : (B "BUFR_EDITION=" ++ b).length + 1 ≤ 2047) :
    loadSubsets T ed fuel bsq (f + 1) cur acc inv (B "BUFR_EDITION=" ++ b ++ 10 :: s) =
      { status := 1, subsets := (finCur T fuel cur acc inv).1.reverse,
        invalid := (finCur T fuel cur acc inv).2, rest := B "BUFR_EDITION=" ++ b ++ 10 :: s } := by
  have hb' : ∀ x ∈ B "BUFR_EDITION=" ++ b, x ≠ 10 ∧ x ≠ 0 := by
    simp only [List.forall_mem_append]
    exact ⟨by decide +kernel, hb⟩
  rw [loadSubsets, fgets_line _ s hb' hlen]
  simp only [cstr_line _ hb', unread_line _ _ hb']
  simp only [List.append_assoc, startsWith_self_append, if_true]
  simp only [B_be, List.cons_append, List.head?_cons, Option.some.injEq]
  cases cur <;> rfl

theorem zipMeta_map_fst (ns : List Node) (ms : List (List Nat)) : (zipMeta ns ms).map (·.1) = ns := by
  induction ns generalizing ms with
  | nil => rfl
  | cons n t ih => cases ms <;> simp [zipMeta, ih]

theorem zipMeta_length (ns : List Node) (ms : List (List Nat)) : (zipMeta ns ms).length = ns.length := by
  have := congrArg List.length (zipMeta_map_fst ns ms)
  simpa using this

/-- the subsets accumulated when the walks of the printed subsets end in the states `sts` -/
def accum (T : Tables) (fuel : Nat) : Option LdSt → List (List Node) → Bool → List LdSt → List (List Node) × Bool
  | cur, acc, inv, [] => finCur T fuel cur acc inv
  | cur, acc, inv, st :: rest =>
    accum T fuel (some (blankAdj st)) (finCur T fuel cur acc inv).1 (finCur T fuel cur acc inv).2 rest

/-- what may follow the subsets of a dataset in a dump file: nothing, or the next dataset -/
inductive Tail : List Nat → Prop
  | eof : Tail []
  | next (b s : List Nat) (hb : ∀ x ∈ b, x ≠ 10 ∧ x ≠ 0) (hlen : (B "BUFR_EDITION=" ++ b).length + 1 ≤ 2047) :
      Tail (B "BUFR_EDITION=" ++ b ++ 10 :: s)

/-- number of lines of the subset blocks -/
def linesOf (subs : List (List Node × List (List Nat))) : Nat := (subs.map fun p => p.1.length + 2).sum

theorem printSubset_eq (trim : Bool) (i : Nat) (metas : List (List Nat)) (ns : List Node) (s : List Nat) :
    printSubset trim i metas ns ++ s =
      dsLine (i + 1) ns.length ++ ((zipMeta ns metas).flatMap (fun p => printNode trim p.2 p.1) ++ 10 :: s) := by
  simp [printSubset, dsLine]

/-- **the loader on printed subsets is the walk over their records** -/
theorem loadSubsets_printSubsets (T : Tables) (ed fuel : Nat) (bsq : List Node) (trim : Bool)
    (subs : List (List Node × List (List Nat))) (sts : List LdSt)
    (hw : List.Forall₂ (fun p st => walk T ed fuel trim { todo := bsq } p.1 = some st) subs sts)
    (hok : ∀ p ∈ subs, ∀ q ∈ zipMeta p.1 p.2, LineOK trim q.2 q.1)
    (i : Nat) (hi : i + subs.length < 10 ^ 9) (hn : ∀ p ∈ subs, p.1.length < 10 ^ 9)
    (tail : List Nat) (ht : Tail tail) (F : Nat) (hF : linesOf subs + 1 ≤ F)
    (cur : Option LdSt) (acc : List (List Node)) (inv : Bool) :
    loadSubsets T ed fuel bsq F cur acc inv (printSubsets trim i subs ++ tail) =
      { status := if cur.isSome ∨ subs ≠ [] ∨ tail ≠ [] then 1 else 0,
        subsets := (accum T fuel cur acc inv sts).1.reverse,
        invalid := (accum T fuel cur acc inv sts).2, rest := tail } := by
  induction hw generalizing i F cur acc inv with
  | nil =>
    obtain ⟨f, rfl⟩ : ∃ f, F = f + 1 := ⟨F - 1, by omega⟩
    simp only [printSubsets, List.nil_append, accum]
    cases ht with
    | eof => rw [loadSubsets_eof]; simp
    | next b s hb hlen => rw [loadSubsets_next T ed fuel bsq f cur acc inv b s hb hlen]; simp
  | @cons p st subs' sts' hp _ ih =>
    obtain ⟨ns, ms⟩ := p
    have hlines : linesOf ((ns, ms) :: subs') = (ns.length + 2) + linesOf subs' := by simp [linesOf]
    rw [hlines] at hF
    obtain ⟨F3, hF3⟩ : ∃ F3, F = ((F3 + 1) + (zipMeta ns ms).length) + 1 := ⟨F - ns.length - 2, by rw [zipMeta_length]; omega⟩
    simp only [printSubsets, List.append_assoc]
    rw [printSubset_eq, hF3, loadSubsets_dsline T ed fuel bsq _ cur acc inv (i + 1) ns.length
      (by simp at hi; omega) (hn (ns, ms) (by simp))]
    have hw1 : walk T ed fuel trim { todo := bsq } ((zipMeta ns ms).map (·.1)) = some st := by
      rw [zipMeta_map_fst]; exact hp
    rw [loadSubsets_nodes T ed fuel bsq trim _ _ (zipMeta ns ms) (hok (ns, ms) (by simp)) _ st hw1,
      loadSubsets_blank]
    rw [ih (fun p hp => hok p (by simp [hp])) (i + 1) (by simp at hi ⊢; omega) (fun p hp => hn p (by simp [hp]))
      F3 (by rw [zipMeta_length] at hF3; omega)]
    simp [accum]

theorem startsWith_word (K W t : List Nat) (d : Nat) (hd : d ∉ K) :
    startsWith K (W ++ d :: t) = startsWith K W := by
  unfold startsWith
  by_cases h : K.length ≤ W.length
  · rw [List.take_append_of_le_length h]
  · have hW : (W.take K.length == K) = false := by
      rw [beq_eq_false_iff_ne]; intro he
      have := congrArg List.length he
      rw [List.length_take] at this; omega
    rw [hW, beq_eq_false_iff_ne]
    intro he
    apply hd
    rw [← he, List.take_append, List.take_of_length_le (by omega)]
    obtain ⟨m, hm⟩ : ∃ m, K.length - W.length = m + 1 := ⟨K.length - W.length - 1, by omega⟩
    rw [hm, List.take_succ_cons]; simp

theorem find?_congr' {α} (l : List α) (p q : α → Bool) (h : ∀ x ∈ l, p x = q x) : l.find? p = l.find? q := by
  induction l with
  | nil => rfl
  | cons a t ih =>
    simp only [List.find?_cons, h a (by simp)]
    rw [ih (fun x hx => h x (by simp [hx]))]

/-- the key table: the keys are words of at most 30 characters over `A`…`Z` and `_`; each is
found as itself (none is the beginning of a key the chain of `strncmp`s tests later); `DATASUBSET` is not a key -/
theorem hkeys_table :
    (∀ p ∈ hkeys, ((B p.2).length ≤ 30 ∧ ∀ c ∈ B p.2, 65 ≤ c ∧ c ≤ 95) ∧ findKey (B p.2) = some (p.1, p.2.length)) ∧
      findKey (B "DATASUBSET") = none := by decide +kernel

theorem hkeys_chars (p : HKey × String) (hp : p ∈ hkeys) : (B p.2).length ≤ 30 ∧ ∀ c ∈ B p.2, 65 ≤ c ∧ c ≤ 95 :=
  (hkeys_table.1 p hp).1

theorem findKey_hkeys (p : HKey × String) (hp : p ∈ hkeys) : findKey (B p.2) = some (p.1, p.2.length) :=
  (hkeys_table.1 p hp).2

theorem findKey_datasubset : findKey (B "DATASUBSET") = none := hkeys_table.2

theorem findKey_word (W t : List Nat) (d : Nat) (hd : d < 65 ∨ 95 < d) : findKey (W ++ d :: t) = findKey W := by
  unfold findKey
  congr 1
  apply find?_congr'
  intro p hp
  exact startsWith_word _ W t d (fun hc => by have := (hkeys_chars p hp).2 d hc; omega)

theorem fmtInt_chars (v : Int) : ∀ c ∈ fmtInt v, c ∉ [32, 61, 9, 10] ∧ c ≠ 10 ∧ c ≠ 0 := by
  intro c hc
  have := (fmtInt_digits v c hc).imp_right isDigit_iff.mp
  simp
  omega

theorem fmtInt_length (v : Int) (hv : v.natAbs < 10 ^ 10) : (fmtInt v).length ≤ 11 := by
  unfold fmtInt
  have := decNat_length v.natAbs 10 (by norm_num) hv
  split_ifs <;> simp <;> omega

theorem kv_eq (K : String) (v : Int) : kv K v = B K ++ 61 :: (fmtInt v ++ [10]) := by
  unfold kv; rw [show B "=" = [61] by decide +kernel]; simp

theorem hdrInt_kv (K : String) (v : Int) (hv : -(2:Int) ^ 31 ≤ v ∧ v < 2 ^ 31) :
    hdrInt (kv K v) K.length = some v := by
  unfold hdrInt
  rw [kv_eq, ← B_length, List.drop_left, show 61 :: (fmtInt v ++ [10]) = [61] ++ (fmtInt v ++ [10]) from rfl,
    strtok_tok _ [61] (fmtInt v) [10] (by simp) (fmtInt_ne_nil v) (fun c hc => (fmtInt_chars v c hc).1) (by simp)]
  simp [atoi_fmtInt v hv.1 hv.2]

/-- one step of `bufr_load_header` on a line that starts with a word of key characters followed by
`=` or a blank: the word alone decides which key it is -/
theorem loadHeader_word (F : Nat) (hF : 1 ≤ F) (h : Hdr) (W r s : List Nat) (d : Nat)
    (hW : ∀ c ∈ W, 65 ≤ c ∧ c ≤ 95) (hd : d = 61 ∨ d = 32) (hr : ∀ x ∈ r, x ≠ 10 ∧ x ≠ 0)
    (hlen : W.length + r.length + 2 ≤ 2047) :
    loadHeader F h (W ++ d :: (r ++ 10 :: s)) =
      match findKey W with
      | some p => loadHeader (F - 1) (applyKey h p.1 p.2 (W ++ d :: (r ++ [10]))) s
      | none => (h, W ++ d :: (r ++ 10 :: s), startsWith (B "DATASUBSE") (W ++ d :: (r ++ [10]))) := by
  obtain ⟨f, rfl⟩ : ∃ f, F = f + 1 := ⟨F - 1, by omega⟩
  have hb : ∀ x ∈ W ++ d :: r, x ≠ 10 ∧ x ≠ 0 := by
    intro x hx
    rcases List.mem_append.mp hx with h1 | h1
    · have := hW x h1; omega
    · rcases List.mem_cons.mp h1 with rfl | h1
      · omega
      · exact hr x h1
  have e1 : W ++ d :: (r ++ 10 :: s) = (W ++ d :: r) ++ 10 :: s := by simp
  have e2 : (W ++ d :: r) ++ [10] = W ++ d :: (r ++ [10]) := by simp
  rw [e1, loadHeader, fgets_line _ s hb (by simp at hlen ⊢; omega)]
  simp only [cstr_line _ hb, unread_line _ _ hb]
  have hc : ∀ c, ((W ++ d :: r) ++ [10]).head? = some c → 61 ≤ c ∨ c = 32 := by
    intro c hc
    cases W with
    | nil => simp at hc; omega
    | cons a t => simp at hc; have := hW a (by simp); omega
  rw [if_neg (fun hh => by
        rcases hh with hh | hh
        · have := hc _ hh
          omega
        · have := hc _ hh
          omega), e2]
  unfold hdrLine
  rw [findKey_word _ _ d (by omega)]
  cases findKey W <;> rfl

theorem loadHeader_kv (k : HKey) (K : String) (hK : (k, K) ∈ hkeys) (v : Int) (hv : -(2:Int) ^ 31 ≤ v ∧ v < 2 ^ 31)
    (F : Nat) (hF : 1 ≤ F) (h : Hdr) (s : List Nat) :
    loadHeader F h (kv K v ++ s) = loadHeader (F - 1) (applyKey h k K.length (kv K v)) s := by
  have hc : (B K).length ≤ 30 ∧ ∀ c ∈ B K, 65 ≤ c ∧ c ≤ 95 := hkeys_chars (k, K) hK
  have hf : findKey (B K) = some (k, K.length) := findKey_hkeys (k, K) hK
  have := loadHeader_word F hF h (B K) (fmtInt v) s 61 hc.2 (Or.inl rfl)
    (fun x hx => (fmtInt_chars v x hx).2) (by have := fmtInt_length v (by omega); omega)
  simp only [hf] at this
  rw [kv_eq, show (B K ++ 61 :: (fmtInt v ++ [10])) ++ s = B K ++ 61 :: (fmtInt v ++ 10 :: s) by simp]
  exact this

end Bufr.Dump
