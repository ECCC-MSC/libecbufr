import BufrProofs.Codec
/-
  BufrProofs.CodecCompressed — the compressed data section as a whole: what `putColumn` writes for
  one position of the template, what the lock-step decoder reads from it, and the walk over all
  positions of a static template.
-/
namespace Bufr
open Bufr

/-- the bits of the associated-field column of a position -/
def afColBits (col : List Node) : List Bool :=
  match col with
  | [] => []
  | n0 :: _ =>
    if n0.enc.afNbits = 0 ∨ n0.afW = 0 then []
    else
      bitsMSB n0.afW (encAfCol (col.map (·.afBits))).1 ++ bitsMSB 6 (encAfCol (col.map (·.afBits))).2.1 ++
        (encAfCol (col.map (·.afBits))).2.2.flatMap (bitsMSB (encAfCol (col.map (·.afBits))).2.1)

/-- the bits of the value column of a position (`ColOK` excludes IEEE positions) -/
def bodyColBits (col : List Node) : List Bool :=
  match col with
  | [] => []
  | n0 :: _ =>
    match n0.enc.type with
    | .ccitt =>
      if ccittDiffers n0 col then
        (strPad none (n0.enc.nbits / 8).toNat).flatMap (bitsMSB 8) ++ bitsMSB 6 (n0.enc.nbits / 8).toNat ++
          col.flatMap (fun n => (paddedString n).flatMap (bitsMSB 8))
      else (paddedString n0).flatMap (bitsMSB 8) ++ bitsMSB 6 0
    | .numeric | .codetable | .flagtable | .chngRef =>
      if n0.enc.nbits ≤ 0 then []
      else
        bitsMSB n0.enc.nbits.toNat (encNumCol n0.enc.nbits (col.map value2bits)).1 ++
          bitsMSB 6 (encNumCol n0.enc.nbits (col.map value2bits)).2.1 ++
          (encNumCol n0.enc.nbits (col.map value2bits)).2.2.flatMap (bitsMSB (encNumCol n0.enc.nbits (col.map value2bits)).2.1)
    | _ => []

/-- everything one position of the template contributes to a compressed Section 4 -/
def colBits (col : List Node) : List Bool :=
  match col with
  | [] => []
  | n0 :: _ => if n0.flags.skipped then [] else afColBits col ++ bodyColBits col

def numLike (t : DType) : Bool := t = .numeric || t = .codetable || t = .flagtable || t = .chngRef

/-- the node the decoder works on once the associated field of its position has been read -/
def afStep (n m : Node) : Node := if n.enc.afNbits = 0 then n else { mkvalNode n with afBits := m.afBits }

/-- decoder copy `n` after the column of its position has been read, for the subset whose encoder
node is `m` -/
def decElem (n m : Node) : Node :=
  if n.flags.skipped then n
  else
    let n2 := afStep n m
    match n.enc.type with
    | .ccitt => { mkvalNode n2 with
        val := (mkvalNode n2).val.setString (some ((paddedString m).map (· % 256))) (n.enc.nbits / 8).toNat }
    | .numeric | .codetable | .flagtable | .chngRef => setBitsValue n2 (value2bits m)
    | _ => n2

/-- the column step of `decodeCompressedLoop`: the associated fields, then `readBody` -/
def readPosition (r : R) (cb1 : Node) (col1 : List Node) (g : Range) : Option (R × List Node) :=
  match getAfCompressed r col1 g with
  | none => none
  | some (r1, col2) =>
    match cb1.enc.type with
    | .ccitt => getCcittCompressed r1 col2 g
    | .ieee => getIeeeCompressed r1 col2 g
    | .numeric | .codetable | .flagtable | .chngRef => getNumericCompressed r1 col2 g
    | _ => some (r1, col2)

/-- what makes a column of encoder nodes fit position `n` of the decoder's list -/
structure ColOK (n : Node) (col : List Node) : Prop where
  ne : col ≠ []
  enc : ∀ m ∈ col, m.enc = n.enc
  notIeee : n.enc.type ≠ .ieee
  af : n.enc.afNbits ≠ 0 → ∀ m ∈ col, m.afW = (mkvalNode n).afW ∧ m.afW > 0 ∧ m.afW ≤ 62 ∧ m.afBits < 2^m.afW
  num : numLike n.enc.type = true → 1 ≤ n.enc.nbits ∧ n.enc.nbits ≤ 64 ∧
    (∀ m ∈ col, value2bits m ≤ missingIvalue n.enc.nbits) ∧
    (n.enc.nbits = 64 → ∀ a ∈ col, ∀ b ∈ col, value2bits a ≠ missingIvalue n.enc.nbits →
      value2bits b ≠ missingIvalue n.enc.nbits → value2bits a - value2bits b < 2^63 - 1)
  str : n.enc.type = .ccitt → 8 ≤ n.enc.nbits ∧ n.enc.nbits % 8 = 0 ∧ n.enc.nbits / 8 ≤ 63 ∧
    (∀ m ∈ col, ∀ c ∈ trimStr (valueString m) (n.enc.nbits / 8).toNat, c ≠ 0)

theorem afStep_enc (n m : Node) : (afStep n m).enc = n.enc ∧ (afStep n m).desc = n.desc := by
  unfold afStep
  split
  · exact ⟨rfl, rfl⟩
  · exact mkvalNode_enc n

theorem afStep_fresh (n m : Node) : (mkvalNode (afStep n m)).val = (mkvalNode n).val := by
  unfold afStep
  split
  · rfl
  · exact (mkvalNode_af_copy n m.afBits).1

theorem bodyColBits_numLike (n0 : Node) (rest : List Node) (h : numLike n0.enc.type = true) (hpos : ¬ n0.enc.nbits ≤ 0) :
    bodyColBits (n0 :: rest) =
      bitsMSB n0.enc.nbits.toNat (encNumCol n0.enc.nbits ((n0 :: rest).map value2bits)).1 ++
        bitsMSB 6 (encNumCol n0.enc.nbits ((n0 :: rest).map value2bits)).2.1 ++
        (encNumCol n0.enc.nbits ((n0 :: rest).map value2bits)).2.2.flatMap
          (bitsMSB (encNumCol n0.enc.nbits ((n0 :: rest).map value2bits)).2.1) := by
  unfold bodyColBits numLike at *
  cases ht : n0.enc.type <;> simp [ht] at h <;> simp [ht, hpos]

theorem bodyColBits_other (n0 : Node) (rest : List Node) (h : numLike n0.enc.type = false) (hc : n0.enc.type ≠ .ccitt) :
    bodyColBits (n0 :: rest) = [] := by
  unfold bodyColBits numLike at *
  cases ht : n0.enc.type <;> simp [ht] at h hc <;> simp [ht]

theorem readPosition_eq (r : R) (cb1 : Node) (col1 : List Node) (g : Range) :
    readPosition r cb1 col1 g = (getAfCompressed r col1 g).bind fun p => readBody cb1.enc.type p.1 p.2 g := by
  unfold readPosition
  cases getAfCompressed r col1 g <;> rfl

theorem readBody_numLike (t : DType) (r : R) (col : List Node) (g : Range) (h : numLike t = true) :
    readBody t r col g = getNumericCompressed r col g := by
  unfold numLike at h
  cases t <;> simp at h <;> rfl

theorem readBody_other (t : DType) (r : R) (col : List Node) (g : Range) (h : numLike t = false)
    (hc : t ≠ .ccitt) (hi : t ≠ .ieee) : readBody t r col g = some (r, col) := by
  unfold numLike at h
  cases t <;> simp at h hc hi <;> rfl

theorem decElem_numLike (n m : Node) (hns : n.flags.skipped = false) (h : numLike n.enc.type = true) :
    decElem n m = setBitsValue (afStep n m) (value2bits m) := by
  unfold decElem numLike at *
  simp only [hns, Bool.false_eq_true, if_false]
  cases ht : n.enc.type <;> simp [ht] at h <;> rfl

theorem decElem_other (n m : Node) (hns : n.flags.skipped = false) (h : numLike n.enc.type = false)
    (hc : n.enc.type ≠ .ccitt) : decElem n m = afStep n m := by
  unfold decElem numLike at *
  simp only [hns, Bool.false_eq_true, if_false]
  cases ht : n.enc.type <;> simp [ht] at h hc <;> rfl

/-- **one position of a compressed data section** (whole dataset): from the bits `putColumn` wrote
for the column, the decoder's copies of node `n` become `decElem n m`, one per subset, and the cursor
ends right after the column -/
theorem readPosition_roundtrip (n : Node) (col : List Node) (hok : ColOK n col) (hns : n.flags.skipped = false)
    (r : R) (hI : RInv r) (tail : List Bool) (hb : r.bits = afColBits col ++ bodyColBits col ++ tail)
    (g : Range) (hfull : g.from_ ≤ 0) (hn : g.nsub = col.length) :
    ∃ r', readPosition r n (List.replicate col.length n) g = some (r', col.map (decElem n)) ∧
      r'.bits = tail ∧ RInv r' := by
  obtain ⟨hne, henc, hnie, haf, hnum, hstr⟩ := hok
  cases col with
  | nil => exact absurd rfl hne
  | cons n0 rest =>
  have he0 := henc n0 (by simp)
  have hgok : g.OK := Or.inl hfull
  have hcount : g.count = (n0 :: rest).length := by rw [g.count_full hfull, hn]
  have hrep : List.replicate (n0 :: rest).length n = n :: List.replicate rest.length n := rfl
  have hstep1 : ∃ r1, getAfCompressed r (List.replicate (n0 :: rest).length n) g =
      some (r1, (n0 :: rest).map (afStep n)) ∧ r1.bits = bodyColBits (n0 :: rest) ++ tail ∧ RInv r1 := by
    by_cases ha : n.enc.afNbits = 0
    · have hafb : afColBits (n0 :: rest) = [] := by unfold afColBits; simp [he0, ha]
      rw [hafb, List.nil_append] at hb
      refine ⟨r, ?_, hb, hI⟩
      unfold getAfCompressed
      simp only [hrep, ha, if_true]
      rw [← hrep, ← List.map_const']
      exact some_pair_congr _ (List.map_congr_left fun m _ => by simp [afStep, ha])
    · have hall := haf ha
      have h0 := hall n0 (by simp)
      have hcond : ¬ (n0.enc.afNbits = 0 ∨ n0.afW = 0) := by rw [he0]; omega
      have hafb : afColBits (n0 :: rest) =
          bitsMSB n0.afW (encAfCol ((n0 :: rest).map (·.afBits))).1 ++ bitsMSB 6 (encAfCol ((n0 :: rest).map (·.afBits))).2.1 ++
            (encAfCol ((n0 :: rest).map (·.afBits))).2.2.flatMap (bitsMSB (encAfCol ((n0 :: rest).map (·.afBits))).2.1) := by
        unfold afColBits; simp only [hcond, if_false]
      obtain ⟨pb, _⟩ := putAfCompressed_bits (W.new 0) (WInv_new 0) n0 rest hcond (fun m hm => (hall m hm).2.1)
      have hb2 : (W.new 0).bits ++ r.bits = (putAfCompressed (W.new 0) (n0 :: rest)).bits ++ (bodyColBits (n0 :: rest) ++ tail) := by
        rw [pb, hb, hafb]; simp
      obtain ⟨r1, e, hbr, hIr⟩ := af_column_roundtrip (W.new 0) (WInv_new 0) n0 rest hcond (fun m hm => (hall m hm).2.1)
        h0.2.2.1 (fun m hm => by
          have hm' := hall m hm
          have e1 : m.afW = n0.afW := by rw [hm'.1, h0.1]
          rw [← e1]; exact hm'.2.2.2)
        r hI _ hb2 n (List.replicate rest.length n) ha h0.1.symm g hgok hn (by simp [hcount])
      refine ⟨r1, ?_, hbr, hIr⟩
      rw [hrep, e, ← hrep, g.slice_full hfull, ← List.map_const', zipWithNodes_map_map]
      exact some_pair_congr _ (List.map_congr_left fun m _ => by simp [afStep, ha])
  obtain ⟨r1, e1, hb1, hI1⟩ := hstep1
  rw [readPosition_eq, e1, Option.bind_some]
  dsimp only
  have hcol2 : (n0 :: rest).map (afStep n) = afStep n n0 :: rest.map (afStep n) := rfl
  have henc0 : (afStep n n0).enc = n.enc := (afStep_enc n n0).1
  by_cases hnl : numLike n.enc.type = true
  · -- numeric, code table, flag table, new reference
    obtain ⟨h1, h2, hv, hsp⟩ := hnum hnl
    have hbody := bodyColBits_numLike n0 rest (by rw [he0]; exact hnl) (by rw [he0]; omega)
    obtain ⟨pb, _⟩ := putNumericCompressed_bits (W.new 0) (WInv_new 0) n0 rest
    have hb2 : (W.new 0).bits ++ r1.bits = (putNumericCompressed (W.new 0) (n0 :: rest)).bits ++ tail := by
      rw [pb, hb1, hbody]; simp
    obtain ⟨r2, e2, hb2', hI2⟩ := numeric_column_roundtrip (W.new 0) (WInv_new 0) n0 rest (by rw [he0]; exact h1)
      (by rw [he0]; exact h2) (by rw [he0]; exact hv) (by rw [he0]; exact hsp) r1 hI1 tail hb2
      (afStep n n0) (rest.map (afStep n)) (by rw [henc0, he0]) g hgok hn (by simp [hcount])
    refine ⟨r2, ?_, hb2', hI2⟩
    rw [readBody_numLike _ _ _ _ hnl, hcol2, e2, g.slice_full hfull, ← hcol2, zipWithNodes_map_map]
    apply some_pair_congr
    apply List.map_congr_left
    intro m _
    exact (decElem_numLike n m hns hnl).symm
  · have hnl' : numLike n.enc.type = false := by simpa using hnl
    by_cases hc : n.enc.type = .ccitt
    · obtain ⟨h8, hm8, h63, hz⟩ := hstr hc
      have hbody : bodyColBits (n0 :: rest) =
          (if ccittDiffers n0 (n0 :: rest) then
            (strPad none (n0.enc.nbits / 8).toNat).flatMap (bitsMSB 8) ++ bitsMSB 6 (n0.enc.nbits / 8).toNat ++
              (n0 :: rest).flatMap (fun n => (paddedString n).flatMap (bitsMSB 8))
            else (paddedString n0).flatMap (bitsMSB 8) ++ bitsMSB 6 0) := by
        unfold bodyColBits; simp [he0, hc]
      obtain ⟨pb, _⟩ := putCcittCompressed_bits (W.new 0) (WInv_new 0) n0 rest
      have hb2 : (W.new 0).bits ++ r1.bits = (putCcittCompressed (W.new 0) (n0 :: rest)).bits ++ tail := by
        rw [pb, hb1, hbody]; simp
      obtain ⟨r2, e2, hb2', hI2⟩ := ccitt_column_roundtrip (W.new 0) (WInv_new 0) n0 rest (by rw [he0]; exact h8)
        (by rw [he0]; exact hm8) (by rw [he0]; exact h63) (fun m hm => by rw [henc m hm, he0])
        (by rw [he0]; exact hz n0 (by simp)) r1 hI1 tail hb2
        (afStep n n0) (rest.map (afStep n)) (by rw [henc0, he0])
        (by
          intro x hx
          have hx' : x ∈ (n0 :: rest).map (afStep n) := hx
          obtain ⟨m, _, rfl⟩ := List.mem_map.mp hx'
          exact ⟨by rw [afStep_fresh, afStep_fresh], by rw [(mkvalNode_enc _).1, (afStep_enc n m).1, henc0]⟩)
        g hfull hn (by simp [hn])
      refine ⟨r2, ?_, hb2', hI2⟩
      rw [hc, hcol2]
      simp only [readBody]
      rw [e2, ← hcol2, zipWithStrs_map_map]
      apply some_pair_congr
      apply List.map_congr_left
      intro m _
      unfold decElem
      simp only [hns, Bool.false_eq_true, if_false, hc, henc0]
      rw [afStep_fresh, ← afStep_fresh n m]
    · -- an operator or other node without data: nothing on the wire
      have hbody := bodyColBits_other n0 rest (by rw [he0]; exact hnl') (by rw [he0]; exact hc)
      rw [hbody, List.nil_append] at hb1
      refine ⟨r1, ?_, hb1, hI1⟩
      rw [readBody_other _ _ _ _ hnl' hc hnie]
      apply some_pair_congr
      apply List.map_congr_left
      intro m _
      exact (decElem_other n m hns hnl' hc).symm

theorem replicate_any_isEmpty {α} (k : Nat) (a : α) (l : List α) :
    (List.replicate k (a :: l)).any (·.isEmpty) = false := by
  induction k with
  | zero => rfl
  | succ k ih => simp [List.replicate_succ, ih]

theorem replicate_map_drop1 {α} (k : Nat) (a : α) (l : List α) :
    (List.replicate k (a :: l)).map (·.drop 1) = List.replicate k l := by
  simp

theorem decElem_enc (n m : Node) : (decElem n m).enc = n.enc ∧ (decElem n m).desc = n.desc := by
  by_cases hs : n.flags.skipped = true
  · unfold decElem; simp [hs]
  · have hns : n.flags.skipped = false := by simpa using hs
    obtain ⟨haenc, hadesc⟩ := afStep_enc n m
    by_cases hnl : numLike n.enc.type = true
    · rw [decElem_numLike n m hns hnl]
      obtain ⟨henc, hdesc⟩ := setBitsValue_enc (afStep n m) (value2bits m)
      exact ⟨henc.trans haenc, hdesc.trans hadesc⟩
    · have hnl' : numLike n.enc.type = false := by simpa using hnl
      by_cases hc : n.enc.type = .ccitt
      · unfold decElem
        simp only [hns, Bool.false_eq_true, if_false, hc]
        obtain ⟨henc, hdesc⟩ := mkvalNode_enc (afStep n m)
        exact ⟨henc.trans haenc, hdesc.trans hadesc⟩
      · rw [decElem_other n m hns hnl' hc]
        exact ⟨haenc, hadesc⟩

theorem colBits_cons (m0 : Node) (t : List Node) :
    colBits (m0 :: t) = if m0.flags.skipped then [] else afColBits (m0 :: t) ++ bodyColBits (m0 :: t) := rfl

/-- position `n` of the decoder's list against the column of encoder nodes for it -/
structure PosOK (k : Nat) (n : Node) (col : List Node) : Prop where
  len : col.length = k + 1
  skipped : ∀ m ∈ col, m.flags.skipped = n.flags.skipped
  ok : n.flags.skipped = false → ColOK n col

/-- what the walk leaves at position `n` for every subset -/
def decPos (k : Nat) (n : Node) (col : List Node) : List Node :=
  if n.flags.skipped then List.replicate (k + 1) n else col.map (decElem n)

/-- the per-subset lists after the positions `cols` have been pushed (newest first, as the decoder
keeps them) -/
def pushCols : List (List Node) → List (List Node) → List (List Node)
  | [], d => d
  | c :: cs, d => pushCols cs (List.zipWith (fun n l => n :: l) c d)

/-- **the compressed walk over a static template** (whole dataset, `k+1` subsets): from the bits the
encoder wrote column by column, the lock-step decoder leaves `decPos` at every position of every
subset, raises no error, never dereferences a missing node, and ends right after the last column -/
theorem decodeCompressedLoop_static (T : Tables) (edition s4max : Nat) (g : Range) (k : Nat)
    (hfull : g.from_ ≤ 0) (hn : g.nsub = k + 1) :
    ∀ (nodes : List Node) (cols : List (List Node)) (fuel : Nat) (ddo : DDO) (st : CompSt) (tail : List Bool),
    nodes.length < fuel → staticOK T edition ddo nodes = true → List.Forall₂ (PosOK k) nodes cols →
    st.todos = List.replicate (k + 1) nodes → st.ddos = List.replicate (k + 1) ddo → st.dones.length = k + 1 →
    st.pendingDelayed = false → RInv st.r → st.r.bits = cols.flatMap colBits ++ tail →
    ∃ st', decodeCompressedLoop T edition s4max g fuel st = .ok st' ∧ st'.invalid = st.invalid ∧
      st'.todos = List.replicate (k + 1) [] ∧
      st'.dones = pushCols (List.zipWith (decPos k) nodes cols) st.dones ∧ st'.r.bits = tail := by
  intro nodes
  induction nodes with
  | nil =>
    intro cols fuel ddo st tail hf _ hp ht _ _ _ _ hb
    cases hp
    cases fuel with
    | zero => simp at hf
    | succ f =>
      refine ⟨st, ?_, rfl, ht, by simp [pushCols], by simpa using hb⟩
      unfold decodeCompressedLoop
      rw [ht]
      simp [List.replicate_succ]
  | cons n ns ih =>
    intro cols fuel ddo st tail hf hok hp ht hd hdl hpd hI hb
    cases hp with
    | cons hpos hps =>
    rename_i col cols'
    cases fuel with
    | zero => simp at hf
    | succ f =>
    simp only [staticOK, Bool.and_eq_true, decide_eq_true_eq, Bool.not_eq_eq_eq_not,
      Bool.not_true] at hok
    obtain ⟨⟨⟨⟨hfix, herr⟩, hnc⟩, hnd⟩, hrest⟩ := hok
    generalize ha : applyTables2node T edition ddo n = a at hfix herr hrest
    obtain ⟨ddo1, n1, err⟩ := a
    simp only at hfix herr hrest
    subst hfix
    subst herr
    rw [List.flatMap_cons, List.append_assoc] at hb
    have happ : List.zipWith (fun ddo n => applyTables2node T edition ddo n) (List.replicate (k + 1) ddo)
        (List.replicate (k + 1) n1) = List.replicate (k + 1) (ddo1, n1, false) := by
      rw [List.zipWith_replicate', ha]
    -- one iteration: all `k+1` copies have the same head `n1`, the same tail `ns` and the same state `ddo`, so
    -- the lists of heads, tails and applied nodes are `replicate`s; what is left is the `if` on `skipped`
    unfold decodeCompressedLoop
    rw [ht]
    simp only [List.replicate_succ]
    rw [← List.replicate_succ]
    simp only [List.filterMap_replicate, List.head?_cons, hd, happ, List.map_replicate, List.any_replicate]
    have hk0 : ¬ (k + 1 = 0) := by omega
    have hf' : ns.length < f := by simp at hf; omega
    have hhd : (List.replicate (k + 1) n1).headD n1 = n1 := by simp [List.replicate_succ]
    simp only [hk0, if_false, List.isEmpty_cons, Bool.false_eq_true, List.drop_one, List.tail_cons, Bool.or_false, hhd, hpd,
      false_and]
    by_cases hsk : n1.flags.skipped = true
    · -- a position without data in every subset
      have hcb : colBits col = [] := by
        cases col with
        | nil => rfl
        | cons m0 _ => rw [colBits_cons, hpos.skipped m0 (by simp), hsk]; simp
      rw [hcb, List.nil_append] at hb
      simp only [hsk, if_true]
      obtain ⟨st', e, hinv, htd, hdn, hbt⟩ := ih cols' f ddo1
        { r := st.r, invalid := st.invalid, ddos := List.replicate (k + 1) ddo1,
          dones := List.zipWith (fun x1 x2 => x1 :: x2) (List.replicate (k + 1) n1) st.dones,
          todos := List.replicate (k + 1) ns, pendingDelayed := false, early := st.early } tail
        hf' hrest hps rfl rfl (by simp [hdl]) rfl hI hb
      refine ⟨st', e, hinv, htd, ?_, hbt⟩
      rw [hdn]
      simp only [List.zipWith_cons_cons, pushCols, decPos, hsk, if_true]
    · have hns : n1.flags.skipped = false := by simpa using hsk
      have hcok := hpos.ok hns
      have hcb : colBits col = afColBits col ++ bodyColBits col := by
        cases col with
        | nil => exact absurd rfl hcok.ne
        | cons m0 _ => rw [colBits_cons, hpos.skipped m0 (by simp), hns]; simp
      rw [hcb] at hb
      have hlen := hpos.len
      obtain ⟨r2, e2, hb2, hI2⟩ := readPosition_roundtrip n1 col hcok hns st.r hI (cols'.flatMap colBits ++ tail)
        (by rw [hb]) g hfull (by rw [hn, hlen])
      rw [hlen, readPosition_eq] at e2
      simp only [hns, Bool.false_eq_true, if_false]
      cases hga : getAfCompressed st.r (List.replicate (k + 1) n1) g with
      | none => rw [hga] at e2; cases e2
      | some p =>
        obtain ⟨r1, col2⟩ := p
        rw [hga, Option.bind_some] at e2
        dsimp only at e2
        -- no new reference value is installed, no delayed replication is pending
        have hddos : List.zipWith (fun ddo n => applyOpCrefval T ddo n) (List.replicate (k + 1) ddo1) (col.map (decElem n1)) =
            List.replicate (k + 1) ddo1 := by
          rw [← hlen, ← List.map_const', List.zipWith_map, List.zipWith_self]
          refine List.map_congr_left fun m _ => ?_
          unfold applyOpCrefval
          rw [(decElem_enc n1 m).1]
          simp [hnc]
        have hpend : (decide (Desc.f n1.desc = 1) && decide (Desc.y n1.desc = 0)) = false := by
          by_contra hc
          have hc' : (decide (Desc.f n1.desc = 1) && decide (Desc.y n1.desc = 0)) = true := by simpa using hc
          simp [hc', hns] at hnd
        obtain ⟨st', e, hinv, htd, hdn, hbt⟩ := ih cols' f ddo1
          { r := r2, invalid := st.invalid, ddos := List.replicate (k + 1) ddo1,
            dones := List.zipWith (fun x1 x2 => x1 :: x2) (col.map (decElem n1)) st.dones,
            todos := List.replicate (k + 1) ns, pendingDelayed := false } tail
          hf' hrest hps rfl rfl (by simp [hdl, hlen]) rfl hI2 hb2
        refine ⟨st', ?_, hinv, htd, ?_, hbt⟩
        · simp only [e2, hddos, hpend, Bool.not_false, Bool.true_and]
          exact e
        · rw [hdn]
          simp only [List.zipWith_cons_cons, pushCols, decPos, hns, Bool.false_eq_true, if_false]

theorem putColumn_bits (w : W) (hI : WInv w) (k : Nat) (n : Node) (col : List Node) (hp : PosOK k n col) :
    (putColumn w col).bits = w.bits ++ colBits col ∧ WInv (putColumn w col) := by
  obtain ⟨n0, rest, rfl⟩ := List.exists_cons_of_length_eq_add_one hp.len
  have hs0 := hp.skipped n0 (by simp)
  unfold putColumn colBits
  by_cases hs : n0.flags.skipped = true
  · simp [hs, hI]
  · simp only [hs, Bool.false_eq_true, if_false]
    have hc := hp.ok (by rw [← hs0]; simpa using hs)
    have he0 := hc.enc n0 (by simp)
    have h1 : ∃ w1, putAfCompressed w (n0 :: rest) = w1 ∧ w1.bits = w.bits ++ afColBits (n0 :: rest) ∧ WInv w1 := by
      by_cases ha : n0.enc.afNbits = 0 ∨ n0.afW = 0
      · refine ⟨w, ?_, by simp [afColBits, ha], hI⟩
        unfold putAfCompressed; simp [ha]
      · obtain ⟨p1, p2⟩ := putAfCompressed_bits w hI n0 rest ha
          fun m hm => (hc.af (by rw [← he0]; omega) m hm).2.1
        exact ⟨_, rfl, by rw [p1]; simp [afColBits, ha], p2⟩
    obtain ⟨w1, e1, hb1, hI1⟩ := h1
    rw [e1]
    have hni := he0 ▸ hc.notIeee
    unfold bodyColBits
    cases ht : n0.enc.type <;> simp only [ht] at hni ⊢
    case ccitt =>
      obtain ⟨p1, p2⟩ := putCcittCompressed_bits w1 hI1 n0 rest
      exact ⟨by rw [p1, hb1, List.append_assoc], p2⟩
    case ieee => exact absurd rfl hni
    case numeric | codetable | flagtable | chngRef =>
      by_cases hnb : n0.enc.nbits ≤ 0
      · simp only [hnb, if_true]; exact ⟨by rw [hb1]; simp, hI1⟩
      · simp only [hnb, if_false]
        obtain ⟨p1, p2⟩ := putNumericCompressed_bits w1 hI1 n0 rest
        exact ⟨by rw [p1, hb1, List.append_assoc], p2⟩
    all_goals exact ⟨by rw [hb1]; simp, hI1⟩

theorem foldl_putColumn_bits (k : Nat) (nodes : List Node) (cols : List (List Node)) (w : W) (hI : WInv w)
    (hp : List.Forall₂ (PosOK k) nodes cols) :
    (cols.foldl putColumn w).bits = w.bits ++ cols.flatMap colBits ∧ WInv (cols.foldl putColumn w) :=
  foldl_bits putColumn colBits cols w hI fun col hcol w hw =>
    let ⟨n, hn⟩ := forall2_right hp col hcol
    putColumn_bits w hw k n col hn

theorem pushCols_length (k : Nat) : ∀ (nodes : List Node) (cols : List (List Node)), List.Forall₂ (PosOK k) nodes cols →
    ∀ (d : List (List Node)), d.length = k + 1 → (pushCols (List.zipWith (decPos k) nodes cols) d).length = k + 1 := by
  intro nodes
  induction nodes with
  | nil => intro cols hp d hd; cases hp; simpa [pushCols] using hd
  | cons n ns ih =>
    intro cols hp d hd
    cases hp with
    | cons hpos hps =>
    rename_i col cols'
    simp only [List.zipWith_cons_cons, pushCols]
    apply ih _ hps
    have : (decPos k n col).length = k + 1 := by
      unfold decPos; split
      · simp
      · simp [hpos.len]
    rw [List.length_zipWith, this, hd]; simp

/-- the per-subset result of pushing the positions onto empty lists: position `j` of subset `i` -/
def transposeDec (k : Nat) (nodes : List Node) (cols : List (List Node)) : List (List Node) :=
  (pushCols (List.zipWith (decPos k) nodes cols) (List.replicate (k + 1) [])).map List.reverse

/-- **C02, static templates, compressed form.**  `bsq` is the decoder's template copy (static: no
delayed replication, no 2 03), `cols` the encoder's columns for `k+1` subsets, position by position
of the same layout with values in range (`PosOK`).  Reading the compressed body the encoder wrote,
the lock-step decoder returns `k+1` subsets holding `decElem` at every data position — the value the
subset had — does not flag the dataset invalid beyond what it was, and stops right after the last
column. -/
theorem compressed_static_roundtrip (T : Tables) (edition s4max : Nat) (enforce : Enforce) (k : Nat) (fuel : Nat)
    (bsq : List Node) (cols : List (List Node)) (w : W) (hIw : WInv w) (hw0 : w.bits = [])
    (hfuel : bsq.length < fuel) (hok : staticOK T edition { enforce := enforce } bsq = true)
    (hp : List.Forall₂ (PosOK k) bsq cols) (err : Bool) (r : R) (hI : RInv r) (pad : List Bool)
    (hb : r.bits = (cols.foldl putColumn w).bits ++ pad) :
    ∃ st', decodeCompressedLoop T edition s4max (⟨k + 1, 0, 0⟩ : Range) fuel
        { r := r, invalid := err, ddos := List.replicate (k + 1) { enforce := enforce },
          dones := List.replicate (k + 1) [], todos := List.replicate (k + 1) bsq } = .ok st' ∧
      st'.invalid = err ∧
      List.zipWith (fun d t => mkvalAll (d.reverse ++ t)) st'.dones st'.todos =
        (transposeDec k bsq cols).map mkvalAll ∧
      st'.r.bits = pad := by
  obtain ⟨eb, _⟩ := foldl_putColumn_bits k bsq cols w hIw hp
  rw [eb, hw0, List.nil_append] at hb
  obtain ⟨st', e, hinv, htd, hdn, hbt⟩ := decodeCompressedLoop_static T edition s4max ⟨k + 1, 0, 0⟩ k (by simp) rfl
    bsq cols fuel { enforce := enforce }
    { r := r, invalid := err, ddos := List.replicate (k + 1) { enforce := enforce },
      dones := List.replicate (k + 1) [], todos := List.replicate (k + 1) bsq } pad hfuel hok hp rfl rfl (by simp) rfl hI hb
  refine ⟨st', e, hinv, ?_, hbt⟩
  rw [htd, hdn]
  unfold transposeDec
  generalize hD : pushCols (List.zipWith (decPos k) bsq cols) (List.replicate (k + 1) []) = D
  -- every todo list is empty: the subsets are the reversed done lists
  have : ∀ (D : List (List Node)) (j : Nat), List.zipWith (fun d t => mkvalAll (d.reverse ++ t)) D (List.replicate j []) =
      ((D.take j).map List.reverse).map mkvalAll := by
    intro D
    induction D with
    | nil => intro j; simp
    | cons d ds ih2 =>
      intro j
      cases j with
      | zero => simp
      | succ j => simp [List.replicate_succ, ih2 j]
  rw [this]
  have hlen : D.length = k + 1 := by
    rw [← hD]
    exact pushCols_length k bsq cols hp _ (by simp)
  rw [List.take_of_length_le (by omega)]

end Bufr
