import BufrModel.TemplateText
import BufrModel.Codec
import BufrProofs.TemplateText
import BufrProofs.TemplateReal
/-
  C18 — templates survive save, load and copy.

  Model: BufrModel/TemplateText.lean (`save`, `load`, `copyTemplate`, `compareTemplate`, templates
  with default values), tied to bufr_template.c by the `tm.newv / tm.save / tm.loadtext / tm.reload /
  tm.copy / tm.compare / tm.descvals / tm.gabvals` correspondence streams, and through `tm.use` to the
  expansion and Section 4 models (`ss.*`, `ds.encode`).

  The model describes the library with eight `fix:` commits (known_findings.json, property C18).

  What a template text can carry (`Savable`): the format has no type information, so a default
  value must have the type `bufr_load_template` gives the values of its descriptor (the type the
  element's encoding calls for — what the library's own example does), strings the width of the
  element, without NUL, newline, or a double quote directly followed by a comma, tab or newline;
  reals finite.  Outside that set the text denotes another template: `C18_text_fails_newline`.
-/
namespace Bufr.C18
open Bufr Bufr.TT Bufr.SF

/-- `t` is a finished template: what `bufr_finalize_template` makes of `t`'s own edition and
descriptor list.  Every template the library hands out satisfies it (`wellMade_*`). -/
def WellMade (T : Tables) (fuel : Nat) (t : TmplV) : Prop := finalizeV T fuel t.edition t.codets = .ok t

theorem wellMade_of_finalize (T : Tables) (fuel : Nat) (ed : Int) (cs : List DescVal) (t : TmplV)
    (h : finalizeV T fuel ed cs = .ok t) : WellMade T fuel t := by
  obtain ⟨h1, h2, _⟩ := finalizeV_fields T fuel ed cs t h
  unfold WellMade
  rw [h1, h2]; exact h

/-- templates made by `bufr_create_template`, `bufr_copy_template` and `bufr_load_template` are finished -/
theorem wellMade_create (T : Tables) (fuel : Nat) (ed : Int) (cs : List DescVal) (t : TmplV)
    (h : createTemplateV T fuel ed cs = .ok t) : WellMade T fuel t :=
  wellMade_of_finalize T fuel ed _ t h

theorem wellMade_copy (T : Tables) (fuel : Nat) (t t' : TmplV) (h : copyTemplate T fuel t = .ok t') : WellMade T fuel t' :=
  wellMade_create T fuel _ _ t' h

theorem wellMade_load (T : Tables) (fuel : Nat) (text : List Nat) (t : TmplV) (h : load T fuel text = .ok t) :
    WellMade T fuel t :=
  wellMade_of_finalize T fuel _ _ _ (finalizeV_of_load T fuel text t h)

theorem load_save (T : Tables) (fuel : Nat) (t : TmplV) (hw : WellMade T fuel t) (hs : Savable T t = true) :
    load T fuel (save t) = .ok t := by
  unfold Savable at hs
  simp only [Bool.and_eq_true, List.all_eq_true] at hs
  obtain ⟨hed, hdv⟩ := hs
  obtain ⟨_, _, hvalid⟩ := finalizeV_fields T fuel _ _ t hw
  have hbound : ∀ c ∈ t.codets, c.desc < 2 ^ 31 := by
    intro c hc
    have := descsValid_bound T none _ hvalid c.desc (List.mem_map.mpr ⟨c, hc, rfl⟩)
    omega
  unfold load
  rw [parseText_save T t hed hbound hdv]
  simp only [List.reverse_reverse]
  have hneg : (t.codets.map fun c => ((c.desc : Int), c.vals)).any (fun c => decide (c.1 < 0)) = false := by
    rw [List.any_eq_false]
    intro c hc
    obtain ⟨c', _, rfl⟩ := List.mem_map.mp hc
    simp
  rw [hneg]
  simp only [Bool.false_eq_true, if_false, List.map_map]
  have hmap : (t.codets.map ((fun c : Int × List Val => ({ desc := c.1.toNat, vals := c.2 } : DescVal)) ∘
      fun c => ((c.desc : Int), c.vals))) = t.codets := by
    conv => rhs; rw [← List.map_id t.codets]
    apply List.map_congr_left
    intro c _
    simp
  rw [hmap]
  unfold WellMade at hw
  rw [hw]

/-- **Save then load.**  For every finished template whose default values the text form can carry,
loading the saved text yields a template that compares equal to the original and has the same
edition, descriptor list, default values and expanded list — in fact the same template. -/
theorem C18_text (T : Tables) (fuel : Nat) (t : TmplV) (hw : WellMade T fuel t) (hs : Savable T t = true) :
    ∃ t', load T fuel (save t) = .ok t' ∧ compareTemplate t' t = 0 ∧
      t'.edition = t.edition ∧ t'.codets = t.codets ∧ t'.gabarit = t.gabarit ∧ t' = t :=
  ⟨t, load_save T fuel t hw hs, compare_self t, rfl, rfl, rfl, rfl⟩

/-- **Same expansion, same encoding.**  The reloaded template is the template the expansion and
Section 4 models see: every data subset created from it, every expansion of a subset and the
padding of the encoded section are those of the original. -/
theorem C18_same_expansion (T : Tables) (fuel : Nat) (t t' : TmplV) (hw : WellMade T fuel t) (hs : Savable T t = true)
    (hl : load T fuel (save t) = .ok t') :
    t'.toTemplate = t.toTemplate ∧
    createDatasubset T fuel t'.toTemplate = createDatasubset T fuel t.toTemplate ∧
    (∀ s, expandDatasubset T fuel t'.toTemplate s = expandDatasubset T fuel t.toTemplate s) ∧
    (∀ w, padSection4 t'.toTemplate.edition w = padSection4 t.toTemplate.edition w) := by
  rw [load_save T fuel t hw hs] at hl
  cases hl
  exact ⟨rfl, rfl, fun _ => rfl, fun _ => rfl⟩

/-- every default value is in the form `bufr_duplicate_value` leaves it in (strings padded to their
length, no NUL inside) -/
def ValsNormal (cs : List DescVal) : Prop := ∀ c ∈ cs, ∀ v ∈ c.vals, dupVal v = v

theorem strPad_length (s : Option (List Nat)) (n : Nat) : (strPad s n).length = n := by
  cases s with
  | none => simp [strPad]
  | some bs =>
    simp only [strPad, List.length_append, List.length_replicate, List.length_take]
    omega

theorem valsNormal_create (T : Tables) (fuel : Nat) (ed : Int) (cs : List DescVal) (t : TmplV)
    (h : createTemplateV T fuel ed cs = .ok t) : ValsNormal t.codets := by
  obtain ⟨_, h2, _⟩ := finalizeV_fields T fuel ed _ t h
  rw [h2]
  intro c hc v hv
  unfold addDescValue at hc
  obtain ⟨c0, _, rfl⟩ := List.mem_map.mp hc
  simp only [List.mem_map] at hv
  obtain ⟨v0, _, rfl⟩ := hv
  exact dupVal_idem v0

theorem copy_eq (T : Tables) (fuel : Nat) (t : TmplV) (hw : WellMade T fuel t) (hn : ValsNormal t.codets) :
    copyTemplate T fuel t = .ok t := by
  unfold copyTemplate createTemplateV
  have : addDescValue t.codets = t.codets := by
    unfold addDescValue
    conv => rhs; rw [← List.map_id t.codets]
    apply List.map_congr_left
    intro c hc
    have : c.vals.map dupVal = c.vals := by
      conv => rhs; rw [← List.map_id c.vals]
      exact List.map_congr_left (fun v hv => hn c hc v hv)
    simp [this]
  rw [this]
  exact hw

/-- **Copy.**  The copy of a finished template compares equal to it and has the same edition,
descriptor list, default values and expanded list. -/
theorem C18_copy (T : Tables) (fuel : Nat) (t : TmplV) (hw : WellMade T fuel t) (hn : ValsNormal t.codets) :
    ∃ t', copyTemplate T fuel t = .ok t' ∧ compareTemplate t' t = 0 ∧
      t'.edition = t.edition ∧ t'.codets = t.codets ∧ t'.gabarit = t.gabarit ∧ t' = t :=
  ⟨t, copy_eq T fuel t hw hn, compare_self t, rfl, rfl, rfl, rfl⟩

/-- in particular the copy of a template made by `bufr_create_template` -/
theorem C18_copy_created (T : Tables) (fuel : Nat) (ed : Int) (cs : List DescVal) (t : TmplV)
    (h : createTemplateV T fuel ed cs = .ok t) : copyTemplate T fuel t = .ok t :=
  copy_eq T fuel t (wellMade_create T fuel ed cs t h) (valsNormal_create T fuel ed cs t h)

theorem valsNormal_load (T : Tables) (fuel : Nat) (text : List Nat) (t : TmplV) (h : load T fuel text = .ok t) :
    ValsNormal t.codets := by
  have hst : StNormal (parseText T text) := foldl_normal T _ {} (by intro p hp; simp at hp)
  obtain ⟨_, h2, _⟩ := finalizeV_fields T fuel _ _ _ (finalizeV_of_load T fuel text t h)
  rw [h2]
  intro c hc v hv
  obtain ⟨p, hp, rfl⟩ := List.mem_map.mp hc
  exact hst p (List.mem_reverse.mp hp) v hv

/-- the copy of a loaded template (what `bufr_create_dataset` makes of it) is the template -/
theorem C18_copy_loaded (T : Tables) (fuel : Nat) (text : List Nat) (t : TmplV) (h : load T fuel text = .ok t) :
    copyTemplate T fuel t = .ok t :=
  copy_eq T fuel t (wellMade_load T fuel text t h) (valsNormal_load T fuel text t h)

/-- the descriptors a text names, as `bufr_load_template` reads them (`atoi` of the first word of
every line that is neither a comment nor a key) -/
def namedDescs (T : Tables) (text : List Nat) : List Int := (parseText T text).codets.reverse.map (·.1)

/-- **Refusal.**  A text that names a number that is no descriptor or an element that is in no
table (`descsValid`, the test of C10_rejects_unknown), or whose descriptors are rejected by
`bufr_check_sequence` (unknown Table D sequence, replication span running past the end or past the
enclosing span, delayed replication without a class 31 factor: C10_rejects), is refused. -/
theorem C18_refuses (T : Tables) (fuel : Nat) (text : List Nat)
    (h : (∃ d ∈ namedDescs T text, d < 0) ∨
         descsValid T none ((namedDescs T text).map Int.toNat) = false ∨
         checkSequence T ((namedDescs T text).map Int.toNat) = none) :
    load T fuel text = .error .refused := by
  unfold load
  simp only
  by_cases hneg : ((parseText T text).codets.reverse.any fun c => decide (c.1 < 0)) = true
  · simp [hneg]
  · simp only [hneg, Bool.false_eq_true, if_false]
    have hdescs : ((parseText T text).codets.reverse.map fun c => ({ desc := c.1.toNat, vals := c.2 } : DescVal)).map (·.desc)
        = (namedDescs T text).map Int.toNat := by
      simp [namedDescs, List.map_map, Function.comp_def]
    rcases h with ⟨d, hd, hlt⟩ | h | h
    · exfalso
      apply hneg
      rw [List.any_eq_true]
      unfold namedDescs at hd
      obtain ⟨c, hc, rfl⟩ := List.mem_map.mp hd
      exact ⟨c, hc, by simpa using hlt⟩
    · unfold finalizeV
      simp only [hdescs, h]
      simp
    · unfold finalizeV
      simp only [hdescs, h]
      have : (if (!descsValid T none ((namedDescs T text).map Int.toNat)) = true then (Except.error XErr.null : Except XErr TmplV)
          else Except.error XErr.null) = Except.error XErr.null := by split <;> rfl
      rw [this]

/-- **Compare is sound for the expanded descriptor list, and for nothing else.**  It returns 0
exactly when the two expanded lists name the same descriptors in the same order.  It does not look at
the edition, the default values or the unexpanded lists (the example on `compareTemplate` below). -/
theorem C18_compare_sound (t1 t2 : TmplV) :
    compareTemplate t1 t2 = 0 ↔ t1.gabarit.map (·.desc) = t2.gabarit.map (·.desc) := by
  unfold compareTemplate
  by_cases hl : t1.gabarit.length = t2.gabarit.length
  · rw [if_neg (by simpa using hl)]
    by_cases hz : (t1.gabarit.zip t2.gabarit).all (fun p => decide (p.1.desc = p.2.desc)) = true
    · rw [if_pos hz]
      exact ⟨fun _ => (zip_all_iff _ _ hl).mp hz, fun _ => rfl⟩
    · rw [if_neg hz]
      exact ⟨fun h => by simp at h, fun h => absurd ((zip_all_iff _ _ hl).mpr h) hz⟩
  · rw [if_pos (by simpa using hl)]
    constructor
    · intro h; simp at h
    · intro h
      exact absurd (by simpa using congrArg List.length h) hl

/-- **Reals.**  A finite double written by `bufr_save_template` (15 significant digits when they
identify it, 17 otherwise) is read back by `strtod` as the same double. -/
theorem C18_real_roundtrip (q : Rat) (h : isDouble q = true) : strtodC (printReal q) = .fin q :=
  strtod_printReal q h

/-! ### Non-vacuity -/

/-- a small table set: integer, real (scale 2), character (3 octets), 40-bit integer and class 31 elements, one sequence -/
def exT : Tables :=
  { fetchB := fun d =>
      if d = 1001 then some { desc := 1001, scale := 0, ref := 0, nbits := 7, typ := .numeric }
      else if d = 12101 then some { desc := 12101, scale := 2, ref := 0, nbits := 16, typ := .numeric }
      else if d = 1015 then some { desc := 1015, scale := 0, ref := 0, nbits := 24, typ := .ccitt }
      else if d = 2040 then some { desc := 2040, scale := 0, ref := 0, nbits := 40, typ := .numeric }
      else if d = 31001 then some { desc := 31001, scale := 0, ref := 0, nbits := 8, typ := .numeric }
      else none,
    fetchD := fun d => if d = 301001 then some { desc := 301001, members := [1001, 102002, 12101, 1001] } else none }

def okT (r : Except XErr TmplV) : Option TmplV := match r with | .ok t => some t | _ => none

def okL (r : Except LoadErr TmplV) : Option TmplV := match r with | .ok t => some t | _ => none

def refused (r : Except LoadErr TmplV) : Bool := match r with | .error .refused => true | _ => false

/-- Table D, delayed replication with a preset factor, an operator; integer (also negative and
missing), 64-bit, real (the double nearest 1/3, which needs 17 digits; 0.1, which needs 1; missing) and string
(blanks, a quote, a comma, `#`) defaults, three values on one descriptor -/
def exCodets : List DescVal :=
  [ { desc := 301001 }, { desc := 101000 }, { desc := 31001, vals := [.i32 2] },
    { desc := 1001, vals := [.i32 5, .i32 (-1), .i32 (-7)] }, { desc := 201130 },
    { desc := 12101, vals := [.f64 (.fin ((6004799503160661 : Rat) / 18014398509481984)),      -- 1/3: 0.33333333333333331
                              .f64 (.fin ((3602879701896397 : Rat) / 36028797018963968)),      -- 0.1
                              .f64 (.fin maxDouble)] },
    { desc := 201000 }, { desc := 1015, vals := [.str [34, 35, 44]] }, { desc := 2040, vals := [.i64 (-(2:Int)^40)] } ]

/-- the template exists, is finished, and the text form can carry it -/
example : (okT (createTemplateV exT 100 3 exCodets)).isSome = true := by decide +kernel
example : (okT (createTemplateV exT 100 3 exCodets)).map (Savable exT) = some true := by decide +kernel

/-- and, run on it, `load ∘ save` is the identity (what `C18_text` proves for all of them) -/
example : (okT (createTemplateV exT 100 3 exCodets)).bind (fun t => okL (load exT 100 (save t))) =
    okT (createTemplateV exT 100 3 exCodets) := by decide +kernel

/-- the saved text of a small template, byte for byte: `1001,VALUE=5,MSNG` and `1015,VALUE="A B"` -/
example : (okT (createTemplateV exT 100 4 [{ desc := 1001, vals := [.i32 5, .i32 (-1)] }, { desc := 1015, vals := [.str [65, 32, 66]] }])).map save =
    some (hdrA ++ [50] ++ hdrB ++ [10] ++ hdrEd ++ [52, 10, 35, 10] ++
      [49, 48, 48, 49, 44, 86, 65, 76, 85, 69, 61, 53, 44, 77, 83, 78, 71, 10] ++
      [49, 48, 49, 53, 44, 86, 65, 76, 85, 69, 61, 34, 65, 32, 66, 34, 10] ++ [35, 10]) := by decide +kernel

/-- refused: an element that is in no table, a sequence that is in no table, a replication running
past the end, a delayed replication without factor, a negative number, garbage -/
example : refused (load exT 100 [49, 57, 57, 57, 10]) = true := by decide +kernel                       -- "1999"
example : refused (load exT 100 [51, 57, 57, 48, 48, 49, 10]) = true := by decide +kernel               -- "399001"
example : refused (load exT 100 [49, 48, 50, 48, 48, 51, 10, 49, 48, 48, 49, 10]) = true := by decide +kernel   -- "102003" "1001"
example : refused (load exT 100 [49, 48, 49, 48, 48, 48, 10, 49, 48, 48, 49, 10]) = true := by decide +kernel   -- "101000" "1001"
example : refused (load exT 100 [45, 53, 10]) = true := by decide +kernel                               -- "-5"
example : refused (load exT 100 [104, 101, 108, 108, 111, 10]) = true := by decide +kernel              -- "hello"

/-- the hypothesis of `C18_refuses` on the first of these -/
example : descsValid exT none ((namedDescs exT [49, 57, 57, 57, 10]).map Int.toNat) = false := by decide +kernel

/-- `bufr_compare_template` ignores the edition and the default values -/
example : (do let a ← okT (createTemplateV exT 100 3 [{ desc := 1001, vals := [.i32 5] }])
              let b ← okT (createTemplateV exT 100 4 [{ desc := 1001 }])
              pure (compareTemplate a b, decide (a = b))) = some (0, false) := by decide +kernel

/-- **What the text form cannot carry.**  A character default holding a newline is written on two
lines; the second one is read as a descriptor: the saved text of this valid template is refused.
(`Savable` is false for it; known finding C18-string-newline.) -/
theorem C18_text_fails_newline :
    ∃ t, createTemplateV exT 100 4 [{ desc := 1015, vals := [.str [65, 10, 66]] }] = .ok t ∧
      Savable exT t = false ∧ load exT 100 (save t) = .error .refused := by
  refine ⟨{ edition := 4, codets := [{ desc := 1015, vals := [.str [65, 10, 66]] }],
            gabarit := [{ desc := 1015, enc := { type := .ccitt, scale := 0, ref := 0, nbits := 24 }, val := .str [65, 10, 66] }],
            hasDelayed := false }, ?_, ?_, ?_⟩ <;> decide +kernel

end Bufr.C18
