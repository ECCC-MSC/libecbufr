import BufrProofs.RefCodec
import BufrProofs.Bitmap
import BufrSpec.RefEncode
/-
  C04 — The decoder accepts every well-formed FM 94 message and returns the encoded values.

  The property theorems (helper lemmas: BufrProofs/Codec.lean, RefCodec.lean, and Bitmap.lean for the bit-map
  operators).  Model:
  BufrModel/Decode.lean; inputs the library never produces itself come from the reference encoder
  BufrSpec/RefEncode.lean (`spec.reencode`, props/c04.py), each checked against the reference decoder.

  Proved at full strength, for *every* bit string of the stated form (not only the library's own
  output): a compressed numeric column with ANY local reference value and ANY increment width from 1
  up to the element width — in particular non-minimal widths — decodes to `R0 + increment`, all ones
  meaning missing; a constant column decodes to R0 whatever R0 is; a request for subsets `from..to`
  returns exactly that slice and the cursor ends after the column; one uncompressed element is read
  from exactly its bits; and on all these inputs the library's column reader and the reference
  decoder agree.  The walk over a whole template is `C01_static_roundtrip` (static templates);
  message-level freedoms (Section 2, headers, odd lengths) are C06's theorems.
-/
namespace Bufr.C04
open Bufr Bufr.Spec

/-- **constant column**, arbitrary local reference value -/
theorem C04_const_column (r : R) (cb : Node) (col : List Node) (g : Range) (r0 : Nat)
    (rest : List Bool) (hI : RInv r) (hnb : 1 ≤ cb.enc.nbits ∧ cb.enc.nbits ≤ 64)
    (hb : r.bits = bitsMSB cb.enc.nbits.toNat r0 ++ bitsMSB 6 0 ++ rest) :
    ∃ r', getNumericCompressed r (cb :: col) g =
        some (r', (cb :: col).map (fun n => setBitsValue n (r0 % 2^cb.enc.nbits.toNat))) ∧
      r'.bits = rest ∧ RInv r' :=
  getNumericCompressed_const r cb col g r0 rest hI hnb hb

/-- **listed column**, arbitrary local reference value, arbitrary (also non-minimal) increment
width `1 ≤ NBINC ≤ element width`, any slice request -/
theorem C04_listed_column (r : R) (cb : Node) (col : List Node) (g : Range) (r0 k : Nat)
    (incs : List Nat) (rest : List Bool) (hI : RInv r) (hnb : 1 ≤ cb.enc.nbits ∧ cb.enc.nbits ≤ 64)
    (hk0 : 0 < k) (hk : (k : Int) ≤ cb.enc.nbits) (hk63 : k < 64) (hg : g.OK) (hlen : incs.length = g.nsub)
    (hb : r.bits = bitsMSB cb.enc.nbits.toNat r0 ++ bitsMSB 6 k ++ incs.flatMap (bitsMSB k) ++ rest) :
    ∃ r', getNumericCompressed r (cb :: col) g =
        some (r', zipWithNodes (fun n v => setBitsValue n
                    (if v = missingIvalue k then missingIvalue cb.enc.nbits else v + r0 % 2^cb.enc.nbits.toNat))
                  (cb :: col) ((g.slice incs).map (· % 2^k))) ∧
      r'.bits = rest ∧ RInv r' :=
  getNumericCompressed_listed r cb col g r0 k incs rest hI hnb hk0 hk hk63 hg hlen hb

/-- the reference decoder on the same bits (whole dataset): the same values, `R0 + increment` or
all ones — so on every well-formed column the library and the regulation agree -/
theorem C04_listed_column_spec (w k r0 : Nat) (incs : List Nat) (rest : List Bool)
    (hk0 : 0 < k) (hk : k < 64) (hr0 : r0 < 2^w)
    (hfit : ∀ i ∈ incs, i % 2^k ≠ allOnes k → r0 + i % 2^k ≤ allOnes w) :
    readColumn w incs.length (bitsMSB w r0 ++ bitsMSB 6 k ++ incs.flatMap (bitsMSB k) ++ rest) =
      some (incs.map (fun i => if i % 2^k = allOnes k then allOnes w else r0 + i % 2^k), rest) := by
  rw [List.append_assoc, List.append_assoc]
  unfold readColumn
  have hk6 : k % 2^6 = k := Nat.mod_eq_of_lt (by omega)
  simp only [takeBits_view, Nat.mod_eq_of_lt hr0, hk6, Option.bind_some, bind, pure]
  rw [if_neg (by omega)]
  simp only [takeIncs_view, Option.bind_some, List.map_map]
  have hall : ((incs.map ((fun i => if i = allOnes k then allOnes w else r0 + i) ∘ (· % 2^k))).all
      fun x => decide (x ≤ allOnes w)) = true := by
    rw [List.all_eq_true]
    intro v hv
    obtain ⟨i, hi, rfl⟩ := List.mem_map.mp hv
    simp only [Function.comp, decide_eq_true_eq]
    by_cases h : i % 2^k = allOnes k
    · simp [h]
    · simp only [h, if_false]; exact hfit i hi h
  rw [if_pos hall]
  rfl

/-- **one uncompressed element** -/
theorem C04_element (r : R) (hI : RInv r) (n m : Node) (rest : List Bool) (hl : SameLayout n m)
    (hns : m.flags.skipped = false) (hw : widthOK m) (hb : r.bits = nodeBits m ++ rest) :
    ∃ r', getDescValue r n = some (r', readBack n m) ∧ r'.bits = rest ∧ RInv r' :=
  getDescValue_view r hI n m rest hl hns hw hb

/-- **listed character column**: ANY reference string, strings of `NBINC` octets each -/
theorem C04_character_column_listed (r : R) (cb : Node) (col : List Node) (g : Range) (r0 : List Nat) (k : Nat)
    (strs : List (List Nat)) (rest : List Bool) (hI : RInv r)
    (hlen : r0.length = (cb.enc.nbits / 8).toNat) (hpos : 0 < r0.length)
    (hk0 : 0 < k) (hk : k < 64) (hk63 : k = 63 → cb.enc.nbits = 63 * 8)
    (hfull : g.from_ ≤ 0) (hn : strs.length = g.nsub) (hsl : ∀ s ∈ strs, s.length = k)
    (hb : r.bits = r0.flatMap (bitsMSB 8) ++ bitsMSB 6 k ++ strs.flatMap (fun s => s.flatMap (bitsMSB 8)) ++ rest) :
    ∃ r', getCcittCompressed r (cb :: col) g =
        some (r', zipWithStrs (fun n s => { mkvalNode n with
          val := (mkvalNode n).val.setString (some s) ((mkvalNode n).enc.nbits / 8).toNat })
          (cb :: col) (strs.map (fun s => s.map (· % 256)))) ∧
      r'.bits = rest ∧ RInv r' :=
  getCcittCompressed_listed r cb col g r0 k strs rest hI hlen hpos hk0 hk hk63 hfull hn hsl hb

/-- **constant character column** -/
theorem C04_character_column_const (r : R) (cb : Node) (col : List Node) (g : Range) (cs : List Nat)
    (rest : List Bool) (hI : RInv r) (hlen : cs.length = (cb.enc.nbits / 8).toNat) (hpos : 0 < cs.length)
    (hb : r.bits = cs.flatMap (bitsMSB 8) ++ bitsMSB 6 0 ++ rest) :
    ∃ r', getCcittCompressed r (cb :: col) g =
        some (r', (cb :: col).map (fun n => { mkvalNode n with
          val := (mkvalNode cb).val.setString (some (cs.map (· % 256))) (cb.enc.nbits / 8).toNat })) ∧
      r'.bits = rest ∧ RInv r' :=
  getCcittCompressed_const r cb col g cs rest hI hlen hpos hb

/-- **associated-field column**, any local reference value and increment width -/
theorem C04_af_column_listed (r : R) (cb : Node) (col : List Node) (g : Range) (r0 k : Nat) (incs : List Nat)
    (rest : List Bool) (hI : RInv r) (haf : cb.enc.afNbits ≠ 0) (hw : 1 ≤ (mkvalNode cb).afW ∧ (mkvalNode cb).afW ≤ 64)
    (hk0 : 0 < k) (hk : k < 64) (hfull : g.from_ ≤ 0) (hn : incs.length = g.nsub)
    (hb : r.bits = bitsMSB (mkvalNode cb).afW r0 ++ bitsMSB 6 k ++ incs.flatMap (bitsMSB k) ++ rest) :
    ∃ r', getAfCompressed r (cb :: col) g =
        some (r', zipWithNodes (fun n v => { mkvalNode n with afBits := v + r0 % 2^(mkvalNode cb).afW })
          (cb :: col) (incs.map (· % 2^k))) ∧
      r'.bits = rest ∧ RInv r' := by
  have h := getAfCompressed_listed r cb col g r0 k incs rest hI haf hw hk0 hk (Or.inl hfull) hn hb
  rwa [g.slice_full hfull] at h

/-- **data present bit-map: what a marker operator stands for.**  With the bit-map evaluated over
the sequence `bsq0` — `dataPositions bsq0` the data elements in front of the first operator that
opens a bit-map section (2 22/2 23/2 24/2 25/2 32 000), `zeroBits` the positions of the bits that
say "present" among the first `|dataPositions|` 0 31 031 values behind it (`initDpbm_eval`: this
is what `bufr_init_dpbm` leaves in `dp[]`) — the `k+1`-th replica of a marker operator
(2 23 255, 2 24 255, 2 25 255, 2 32 255) is decoded with the type, width, scale, reference value
and associated-field width of the `k+1`-th element flagged present, into a value of that element's
type; the operator state is left alone.  FM 94 lets a bit-map refer to the N elements *preceding*
the operator with N smaller than their number; the library only supports bit-maps over all of them
(it warns otherwise) and the statement is about exactly that reading. -/
theorem C04_marker_refers (bsq0 : List Node) (bsq : Unit → List Node) (ddo : DDO) (r : Int) (d : DPBM) (n : Node) (k pos q : Nat) (cbm : Node)
    (hd : d.dp = zeroBits (dataPositions bsq0).length (bitmapNodes bsq0) 0 ∧ d.index = dataPositions bsq0)
    (hm : isMarkerDpbm n.desc = true) (hk : n.replRank = k + 1)
    (hz : (zeroBits (dataPositions bsq0).length (bitmapNodes bsq0) 0)[k]? = some pos)
    (hq1 : (dataPositions bsq0)[pos]? = some (q + 1)) (hq2 : (bsq ())[q]? = some cbm) :
    bmPre bsq ddo { dpbm := some d, remainDpi := r } n =
      .ret { dpbm := some d, remainDpi := r }
        { n with enc := cbm.enc, val := (markerVal cbm).1, afW := (markerVal cbm).2.1, afBits := (markerVal cbm).2.2 } :=
  marker_refers bsq0 bsq ddo r d n k pos q cbm hd hm hk hz hq1 hq2

/-- the premise of `C04_marker_refers` is what the evaluation of the bit-map produces -/
theorem C04_bitmap_evaluated (bsq0 : List Node) :
    (initDpbm { index := dataPositions bsq0 } bsq0 (startPos bsq0)).dp =
      zeroBits (dataPositions bsq0).length (bitmapNodes bsq0) 0 ∧
    (initDpbm { index := dataPositions bsq0 } bsq0 (startPos bsq0)).index = dataPositions bsq0 :=
  initDpbm_eval bsq0

/-- **what the bit-map is about**: the index built by `bufr_index_dpbm` lists, in order, exactly the
data entities in front of the first operator that opens a bit-map section — element descriptors and
2 05 YYY inserts, leaving out replication, sequence and other operator descriptors and whatever a
replication occurring zero times left out (`dataPositionsSpec`, written as the rule reads) -/
theorem C04_bitmap_index (bsq : List Node) : dataPositions bsq = dataPositionsSpec bsq 0 :=
  dataPositions_spec bsq

/-- **which entries are flagged present**: `k` is among the evaluated bits exactly when it is below the
number of data entities and the `k`-th bit-map value is 0; they come out in increasing order, so the
`k`-th marker stands for the `k`-th element flagged present -/
theorem C04_bitmap_bits (nb : Nat) (ns : List Node) (k : Nat) :
    (k ∈ zeroBits nb ns 0 ↔ k < nb ∧ ∃ n, ns[k]? = some n ∧ n.ival = 0) ∧ (zeroBits nb ns 0).Pairwise (· < ·) := by
  refine ⟨?_, zeroBits_sorted nb ns 0⟩
  have := mem_zeroBits nb ns 0 k
  simpa using this

/-- the reference encoder never asks for less than one bit per increment -/
theorem C04_minNbinc_pos (d : Nat) : 1 ≤ minNbinc d := by unfold minNbinc; omega

/-! ### Non-vacuity -/

/-- a 12-bit element, three subsets, R0 = 100 (not the minimum), NBINC = 9 (not minimal), one missing -/
example : readColumn 12 3 (bitsMSB 12 100 ++ bitsMSB 6 9 ++ [5, 511, 300].flatMap (bitsMSB 9) ++ [true]) =
    some ([105, 4095, 400], [true]) := by decide +kernel
example : (⟨3, 0, 0⟩ : Range).OK := Or.inl (by decide)

/-- pressure, (a replication, left out), temperature, 2 24 000, 2 36 000, three bits 0 1 0 … : the data elements
sit at positions 1 and 3, the bits flagged present are the first and the third, so a bit-map of two bits has
positions [0] … here with three elements and bits 0,1,0 -/
def bmExample : List Node :=
  [{ desc := 10004 }, { desc := 12101 }, { desc := 12103 }, { desc := 224000 }, { desc := 236000 },
   { desc := 101003, flags := { expanded := true, skipped := true } },
   { desc := 31031, val := .i32 0 }, { desc := 31031, val := .i32 (-1) }, { desc := 31031, val := .i32 0 },
   { desc := 101002, flags := { expanded := true, skipped := true } },
   { desc := 224255, replRank := 1 }, { desc := 224255, replRank := 2 }]
example : dataPositions bmExample = [1, 2, 3] := by decide
example : zeroBits 3 (bitmapNodes bmExample) 0 = [0, 2] := by decide
-- the second marker stands for the third element (0 12 103)
example : (zeroBits (dataPositions bmExample).length (bitmapNodes bmExample) 0)[1]? = some 2 ∧
    (dataPositions bmExample)[2]? = some (2 + 1) ∧ (bmExample[2]?).map (·.desc) = some 12103 := by decide

end Bufr.C04
