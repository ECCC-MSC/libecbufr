import BufrModel.Template
import BufrProofs.Expand
import BufrProofs.ExpandTotal
/-
  C10 — template expansion equals the regulated expansion, and always terminates.

  Model: BufrModel/Expand.lean, BufrModel/Template.lean (tied to bufr_sequence.c /
  bufr_template.c by the `tm.*`/`ss.*` correspondence streams).
  Spec:  BufrSpec/Expand.lean (regulation 94.5 as inductive relations `Static`, `Full`).
-/
namespace Bufr.C10
open Bufr Bufr.Spec

theorem createTemplate_cases (T : Tables) (edition : Nat) (ds : List Nat) :
    (∀ f, createTemplate T f edition ds = .error .null) ∨
    ∃ delayed, ∀ f, createTemplate T f edition ds = (expandSequence T f 0 (ds.map (mkNode T))).map fun g =>
      { edition := edition, descs := ds, gabarit := g,
        hasDelayed := delayed || g.any fun n => Desc.f n.desc = 1 && Desc.y n.desc = 0 } := by
  unfold createTemplate
  split
  · exact Or.inl fun _ => rfl
  · split
    · exact Or.inl fun _ => rfl
    · next delayed _ =>
      refine Or.inr ⟨delayed, fun f => ?_⟩
      cases expandSequence T f 0 (ds.map (mkNode T)) <;> rfl

/-- **Static expansion refines regulation 94.5.**  Whenever `bufr_create_template` accepts a
descriptor list, the expanded template it stores (`gabarit`), read without its SKIPPED
placeholders, is *the* regulation expansion of that list: Table D sequences replaced by their
members recursively, fixed replications unrolled, delayed replication groups kept for later.
No bound on sizes, nesting depth or fuel. -/
theorem C10_static_refines (T : Tables) (fuel edition : Nat) (ds : List Nat) (t : Template)
    (h : createTemplate T fuel edition ds = .ok t) :
    Static T ds (items t.gabarit) := by
  rcases createTemplate_cases T edition ds with hc | ⟨_, hc⟩
  · rw [hc] at h; cases h
  · rw [hc] at h
    obtain ⟨g, hg, rfl⟩ := except_map_ok _ _ _ h
    have := (expandList_sound (expandSequence_ok hg)).static rfl rfl (mkNodes_fresh T ds)
    rwa [mkNodes_desc] at this

/-- **Malformed templates are rejected, never expanded wrongly.**  If the regulation expansion of
a descriptor list does not exist — an unknown Table D descriptor, a fixed replication whose X
descriptors run past the end of the list or of the sequence they are in, spans that overlap so
that unrolling never ends, a delayed replication not followed by a class 31 element — the
template is refused.  (The model has no other outcome than `ok`, `null` = refused, and `fuel`;
a crash or an abort of the C code shows up as a disagreement in the correspondence.) -/
theorem C10_rejects (T : Tables) (fuel edition : Nat) (ds : List Nat)
    (h : ¬ ∃ out, Static T ds out) : ∀ t, createTemplate T fuel edition ds ≠ .ok t := by
  intro t ht
  exact h ⟨_, C10_static_refines T fuel edition ds t ht⟩

/-- **Termination.**  The model's recursion is bounded by a fuel argument and answers `.error .fuel` where the
C would recurse without end (a Table D sequence that contains itself, replication spans that keep unrolling).
Whenever the regulation expansion of the list exists — a finite derivation — there is a recursion depth from
which on the template builder never gives that answer: it returns the template of `C10_static_refines`, or
refuses the list for one of the library's own reasons.  No bound on the list, the table or the nesting. -/
theorem C10_terminates (T : Tables) (edition : Nat) (ds : List Nat) (h : ∃ out, Static T ds out) :
    ∃ f0, ∀ f, f0 ≤ f → createTemplate T f edition ds ≠ .error .fuel := by
  obtain ⟨out, hs⟩ := h
  obtain ⟨f0, hE⟩ := static_total T ds out hs
  refine ⟨f0, fun f hf => ?_⟩
  rcases createTemplate_cases T edition ds with hc | ⟨_, hc⟩
  · rw [hc]; exact fun hh => nomatch hh
  · rw [hc]
    refine xres_map_ne_fuel _ _ fun hh => hE f hf _ (mkNodes_desc T ds) (mkNodes_fresh T ds) ?_
    unfold expandSequence at hh
    split at hh
    · cases hh
    · cases hh
    · next he => cases hh; exact he

/-- and then the outcome is the regulation's: with that much fuel the builder either returns the regulation
expansion or refuses; it never diverges and never returns anything else -/
theorem C10_total_correct (T : Tables) (edition : Nat) (ds : List Nat) (h : ∃ out, Static T ds out) :
    ∃ f0, ∀ f, f0 ≤ f →
      (∃ t, createTemplate T f edition ds = .ok t ∧ Static T ds (items t.gabarit)) ∨
      createTemplate T f edition ds = .error .null ∨ createTemplate T f edition ds = .error .abort := by
  obtain ⟨f0, hT⟩ := C10_terminates T edition ds h
  refine ⟨f0, ?_⟩
  intro f hf
  cases hc : createTemplate T f edition ds with
  | ok t => exact Or.inl ⟨t, rfl, C10_static_refines T f edition ds t hc⟩
  | error e =>
    cases e with
    | null => exact Or.inr (Or.inl rfl)
    | abort => exact Or.inr (Or.inr rfl)
    | fuel => exact absurd hc (hT f hf)

/-- **The fuel is only a bound.**  An answer of the template builder that is not "out of fuel" is the answer at
every larger recursion bound: template or refusal, nothing in the model depends on the bound itself.  With
`C10_terminates`: for every list whose regulation expansion exists the outcome of building the template is
well defined. -/
theorem C10_fuel_irrelevant (T : Tables) (edition : Nat) (ds : List Nat) (f : Nat)
    (h : createTemplate T f edition ds ≠ .error .fuel) :
    ∀ g, f ≤ g → createTemplate T g edition ds = createTemplate T f edition ds := by
  intro g hg
  obtain ⟨k, rfl⟩ : ∃ k, g = f + k := ⟨g - f, by omega⟩
  rcases createTemplate_cases T edition ds with hc | ⟨_, hc⟩
  · rw [hc, hc]
  · rw [hc] at h
    rw [hc, hc]
    rcases (expandSequence_mono T 0 (ds.map (mkNode T)) f k).map _ with hx | hx
    · exact absurd hx h
    · exact hx.symm

/-- templates naming an element that is in no table (and not described by 2 06 YYY), or a number
that is not a descriptor at all, are refused before anything is expanded -/
theorem C10_rejects_unknown (T : Tables) (fuel edition : Nat) (ds : List Nat)
    (h : descsValid T none ds = false) : createTemplate T fuel edition ds = .error .null := by
  unfold createTemplate; simp [h]

/-- the replication count the library derives from a class 31 factor is the regulation's:
0 31 000 is a yes/no switch, 0 31 001/002 the count itself, 0 31 011/012 a repetition
(data present once). -/
theorem C10_factor_count (v : Nat) :
    solveReplication v 0 = factorCount 31000 v ∧ solveReplication v 1 = factorCount 31001 v ∧
    solveReplication v 2 = factorCount 31002 v ∧
    solveReplication v 11 = factorCount 31011 v ∧ solveReplication v 12 = factorCount 31012 v := by
  unfold solveReplication factorCount
  by_cases hv : v = 0
  · subst hv; simp
  · refine ⟨?_, ?_, ?_, ?_, ?_⟩
    all_goals simp [hv]
    all_goals omega

/-! ### Non-vacuity -/

/-- a small table set: one Table D sequence containing a fixed replication -/
def exT : Tables :=
  { fetchB := fun d => if d = 1001 then some { desc := 1001, scale := 0, ref := 0, nbits := 7, typ := .numeric }
                       else if d = 12101 then some { desc := 12101, scale := 2, ref := 0, nbits := 16, typ := .numeric }
                       else if d = 31001 then some { desc := 31001, scale := 0, ref := 0, nbits := 8, typ := .numeric }
                       else none,
    fetchD := fun d => if d = 301001 then some { desc := 301001, members := [1001, 102002, 12101, 1001] } else none }

/-- the hypothesis of `C10_static_refines` is met by a template nesting Table D, fixed and delayed
replication, and the expansion is what the regulation says -/
example : (createTemplate exT 100 4 [301001, 101000, 31001, 12101]).toOption.map (fun t => items t.gabarit) =
    some [1001, 12101, 1001, 12101, 1001, 101000, 31001, 12101] := by decide +kernel

/-- the hypothesis of `C10_rejects` is met by the template the original code aborted on -/
example : ¬ ∃ out, Static exT [102003, 1001] out := by
  rintro ⟨out, h⟩
  cases h with
  | elem _ _ _ h => simp [Desc.f] at h
  | seq _ _ _ _ _ h => simp [Desc.f] at h
  | fixed _ _ _ _ _ _ hl => simp [Desc.x] at hl
  | delayed _ _ _ _ _ hy => simp [Desc.y] at hy

/-- the hypothesis of `C10_terminates` is met by the nested template above: its regulation expansion exists -/
example : ∃ out, Static exT [301001, 101000, 31001, 12101] out := by
  refine ⟨_, Static.seq 301001 _ { desc := 301001, members := [1001, 102002, 12101, 1001] } _ _ (by decide) rfl
    (Static.elem 1001 _ _ (by decide)
      (Static.fixed 102002 [12101, 1001] _ _ (by decide) (by decide) (by decide)
        (Static.elem 12101 _ _ (by decide) (Static.elem 1001 _ _ (by decide)
          (Static.elem 12101 _ _ (by decide) (Static.elem 1001 _ _ (by decide) Static.nil))))
        Static.nil))
    (Static.delayed 101000 31001 [12101] _ (by decide) (by decide) (by unfold isClass31; decide) Static.nil)⟩

def refused (r : Except XErr Template) : Bool := match r with | .error .null => true | _ => false

/-- and a table whose sequence contains itself (directly, or through another sequence) has no regulation
expansion: it is refused (`bufr_tabled_is_circular`; before the repair recorded as C10-tabled-circular the
C recursed until its stack was gone, and the model ran out of any fuel) -/
def cycT : Tables := { exT with fetchD := fun d => if d = 301001 then some { desc := 301001, members := [1001, 301001] } else none }

example : refused (createTemplate cycT 50 4 [301001]) = true := by decide +kernel

def cyc2D (d : Nat) : Option EntryD :=
  if d = 301001 then some { desc := 301001, members := [1001, 301002] }
  else if d = 301002 then some { desc := 301002, members := [12101, 301001] } else none

def cycT2 : Tables := { exT with fetchD := cyc2D }

example : refused (createTemplate cycT2 50 4 [12101, 301002]) = true := by decide +kernel

/-- overlapping replications inside a Table D sequence (closed within the sequence) are refused as well -/
def ovlD (d : Nat) : Option EntryD :=
  if d = 301001 then some { desc := 301001, members := [102002, 102002, 1001, 12101, 1001] } else none

def ovlT : Tables := { exT with fetchD := ovlD }

example : refused (createTemplate ovlT 50 4 [301001]) = true := by decide +kernel

example : refused (createTemplate exT 100 4 [102003, 1001]) = true := by decide +kernel
example : refused (createTemplate exT 100 4 [101001]) = true := by decide +kernel
example : refused (createTemplate exT 100 4 [102002, 102002, 1001, 12101]) = true := by decide +kernel

end Bufr.C10
