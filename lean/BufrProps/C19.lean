import BufrProofs.Ieee
/-
  C19 — IEEE 754 fields are stored bit-exactly (operators 2 09 032 / 2 09 064).
  POST-FIX version: for bufr_ieee754.c with (1) the stray `;` in check_C_ieee754_compliance removed and
  (2) subnormals handled in bufr_single/double_get_significand (`rem` decremented from the first iteration
  when expon == emin; expon forced to emin below FLT_MIN/DBL_MIN).

  Spec:  BufrSpec/Ieee.lean   (`Spec.ieeeValue32/64`: IEEE 754-2008 §3.4, written from the standard).
  Model: BufrModel/Ieee.lean  (`decodeSingle/Double`, `encodeSingle/Double`, `useCIeee754`), tied to
         bufr_ieee754.c by the `ieee.*` correspondence streams.

  Every statement quantifies over ALL bit patterns (no enumeration); all are full strength.  The exponent
  guess `g` (`(int)(logf(x)/logf(2.0))`, libm) is universally quantified under its contract
  `GuessOKV cfg x g`:  `x = 0`, or `x < 2^emin` (guess irrelevant), or `2^(g−2) ≤ x < 2^(g+2)`.
-/
namespace Bufr.C19
open Bufr Bufr.Spec

/-- **decode (binary32)**: the portable decoder returns the IEEE 754 value of every 32-bit pattern —
normal, subnormal, zero of either sign, infinity of either sign, and NaN for every NaN pattern. -/
theorem C19_decode32 (b : Nat) : decodeSingle b = ieeeValue32 b := by
  rw [decodeSingle_eq, hostVal32_eq]

example : decodeSingle 0x00000001 = .fin false (1 / 2 ^ 149) := by decide +kernel
example : decodeSingle 0x807fffff = .fin true ((2 ^ 23 - 1) / 2 ^ 149) := by decide +kernel
example : decodeSingle 0xc43b8a00 = .fin true (750 + 5 / 32) := by decide +kernel
example : decodeSingle 0x80000000 = .fin true 0 := by decide +kernel
example : decodeSingle 0xff800000 = .inf true := by decide +kernel
example : ieeeValue32 0x7f7fffff = .fin false (2 ^ 128 - 2 ^ 104) := by decide +kernel

theorem C19_decode64 (b : Nat) : decodeDouble b = ieeeValue64 b := by
  rw [decodeDouble_eq, hostVal64_eq]

example : decodeDouble 0x0000000000000001 = .fin false (1 / 2 ^ 1074) := by decide +kernel
example : decodeDouble 0xc087714000000000 = .fin true (750 + 5 / 32) := by decide +kernel
example : decodeDouble 0x7ff0000000000000 = .inf false := by decide +kernel

/-- **encode (binary32)**: for every non-NaN pattern `b` the portable encoder maps the value of `b` back
to `b`, whatever the exponent guess within its contract. -/
theorem C19_encode32 (b : Nat) (hb : b < 2 ^ 32) (hnan : ¬ isNaN 8 23 b) (g : Int)
    (hg : GuessOKV cfg32 (ieeeValue32 b) g) : encodeSingle (ieeeValue32 b) g = b := by
  rw [← hostVal32_eq] at hg ⊢
  exact encodeSingle_host b hb g hnan hg

-- 1.0 with the guess one too high, −750.15625 with the guess two too high, 2^−125·(1−2^−24) with the guess
-- glibc really returns (−124 = ⌊log₂x⌋+2), the largest subnormal with a guess above emin, the smallest
-- subnormal (former witness of the defect), 1e-40f, −∞, −0
example : encodeSingle (ieeeValue32 0x3f800000) 1 = 0x3f800000 :=
  C19_encode32 _ (by decide) (by decide) _ (by decide +kernel)
example : encodeSingle (ieeeValue32 0xc43b8a00) 11 = 0xc43b8a00 :=
  C19_encode32 _ (by decide) (by decide) _ (by decide +kernel)
example : encodeSingle (ieeeValue32 0x00ffffff) (-124) = 0x00ffffff :=
  C19_encode32 _ (by decide) (by decide) _ (by decide +kernel)
example : encodeSingle (ieeeValue32 0x007fffff) (-125) = 0x007fffff :=
  C19_encode32 _ (by decide) (by decide) _ (by decide +kernel)
example : encodeSingle (ieeeValue32 0x00000001) (-149) = 0x00000001 :=
  C19_encode32 _ (by decide) (by decide) _ (by decide +kernel)
example : encodeSingle (ieeeValue32 0x000116c2) (-132) = 0x000116c2 :=
  C19_encode32 _ (by decide) (by decide) _ (by decide +kernel)
example : encodeSingle (ieeeValue32 0xff800000) 0 = 0xff800000 :=
  C19_encode32 _ (by decide) (by decide) _ (by decide +kernel)
example : encodeSingle (ieeeValue32 0x80000000) 0 = 0x80000000 :=
  C19_encode32 _ (by decide) (by decide) _ (by decide +kernel)
-- the model really computes it (not only the theorem): kernel evaluation of the former witnesses
example : encodeSingle (ieeeValue32 0x00000001) (-149) = 0x00000001 := by decide +kernel
example : encodeSingle (ieeeValue32 0x803fffff) (-127) = 0x803fffff := by decide +kernel

theorem C19_encode64 (b : Nat) (hb : b < 2 ^ 64) (hnan : ¬ isNaN 11 52 b) (g : Int)
    (hg : GuessOKV cfg64 (ieeeValue64 b) g) : encodeDouble (ieeeValue64 b) g = b := by
  rw [← hostVal64_eq] at hg ⊢
  exact encodeDouble_host b hb g hnan hg

example : encodeDouble (ieeeValue64 0x3ff0000000000000) (-1) = 0x3ff0000000000000 :=
  C19_encode64 _ (by decide) (by decide) _ (by decide +kernel)
example : encodeDouble (ieeeValue64 0xc087714000000000) 9 = 0xc087714000000000 :=
  C19_encode64 _ (by decide) (by decide) _ (by decide +kernel)
example : encodeDouble (ieeeValue64 0x0000000000000001) (-1074) = 0x0000000000000001 :=
  C19_encode64 _ (by decide) (by decide) _ (by decide +kernel)
example : encodeDouble (ieeeValue64 0x7fefffffffffffff) 1024 = 0x7fefffffffffffff :=
  C19_encode64 _ (by decide) (by decide) _ (by decide +kernel)
example : encodeDouble (ieeeValue64 0x000012688b70e62b) (-1029) = 0x000012688b70e62b := by decide +kernel

/-- **pattern round trip (binary32)**: encode ∘ decode is the identity on non-NaN patterns. -/
theorem C19_roundtrip32 (b : Nat) (hb : b < 2 ^ 32) (hnan : ¬ isNaN 8 23 b) (g : Int)
    (hg : GuessOKV cfg32 (decodeSingle b) g) : encodeSingle (decodeSingle b) g = b := by
  rw [C19_decode32] at hg ⊢
  exact C19_encode32 b hb hnan g hg

example : encodeSingle (decodeSingle 0x80000001) (-149) = 0x80000001 :=
  C19_roundtrip32 _ (by decide) (by decide) _ (by decide +kernel)

theorem C19_roundtrip64 (b : Nat) (hb : b < 2 ^ 64) (hnan : ¬ isNaN 11 52 b) (g : Int)
    (hg : GuessOKV cfg64 (decodeDouble b) g) : encodeDouble (decodeDouble b) g = b := by
  rw [C19_decode64] at hg ⊢
  exact C19_encode64 b hb hnan g hg

example : encodeDouble (decodeDouble 0x8000000000000001) (-1074) = 0x8000000000000001 :=
  C19_roundtrip64 _ (by decide) (by decide) _ (by decide +kernel)

/-- **value round trip (binary32)**: every representable value — the value of a non-NaN pattern — is read
back identically after being written. -/
theorem C19_value_roundtrip32 (b : Nat) (hb : b < 2 ^ 32) (hnan : ¬ isNaN 8 23 b) (g : Int)
    (hg : GuessOKV cfg32 (ieeeValue32 b) g) :
    decodeSingle (encodeSingle (ieeeValue32 b) g) = ieeeValue32 b := by
  rw [C19_encode32 b hb hnan g hg, C19_decode32]

example : decodeSingle (encodeSingle (ieeeValue32 1) (-149)) = .fin false (1 / 2 ^ 149) := by decide +kernel

theorem C19_value_roundtrip64 (b : Nat) (hb : b < 2 ^ 64) (hnan : ¬ isNaN 11 52 b) (g : Int)
    (hg : GuessOKV cfg64 (ieeeValue64 b) g) :
    decodeDouble (encodeDouble (ieeeValue64 b) g) = ieeeValue64 b := by
  rw [C19_encode64 b hb hnan g hg, C19_decode64]

example : decodeDouble (encodeDouble (ieeeValue64 1) (-1074)) = .fin false (1 / 2 ^ 1074) := by decide +kernel

/-- **NaN (binary32)**: every NaN pattern reads as NaN; NaN is written as the quiet NaN `7fc00000`, which is
a NaN pattern (payload and sign of a NaN are not preserved by the portable path). -/
theorem C19_nan32 :
    (∀ b, isNaN 8 23 b → decodeSingle b = .nan) ∧ (∀ g, encodeSingle .nan g = 0x7fc00000) ∧
    isNaN 8 23 0x7fc00000 := by
  refine ⟨fun b h => ?_, fun g => ?_, by decide⟩
  · rw [decodeSingle_eq]; exact hostVal_nan 8 23 b h
  · show (0x7f800000 ||| (1 <<< 22) : Nat) = 0x7fc00000; decide

example : decodeSingle 0x7f800001 = .nan := C19_nan32.1 _ (by decide)

theorem C19_nan64 :
    (∀ b, isNaN 11 52 b → decodeDouble b = .nan) ∧ (∀ g, encodeDouble .nan g = 0x7ff8000000000000) ∧
    isNaN 11 52 0x7ff8000000000000 := by
  refine ⟨fun b h => ?_, fun g => ?_, by decide⟩
  · rw [decodeDouble_eq]; exact hostVal_nan 11 52 b h
  · show (0x7ff0000000000000 ||| (1 <<< 51) : Nat) = 0x7ff8000000000000; decide

example : decodeDouble 0xfff0000000000001 = .nan := C19_nan64.1 _ (by decide)

/-- **both paths**: whether or not `C_use_ieee754` is on, decoding gives the IEEE value of the pattern and
encoding returns the pattern (native: for *every* pattern, NaN payloads included).  (Host layout assumption:
`hostVal` = binary32/64, proved equal to the spec in `hostVal32_eq`/`hostVal64_eq`.) -/
theorem C19_native_paths :
    (∀ useC b, ieeeDecodeSingle useC b = ieeeValue32 b) ∧ (∀ useC b, ieeeDecodeDouble useC b = ieeeValue64 b) ∧
    (∀ b g, ieeeEncodeSingle true b g = b) ∧ (∀ b g, ieeeEncodeDouble true b g = b) ∧
    (∀ useC b g, b < 2 ^ 32 → ¬ isNaN 8 23 b → GuessOKV cfg32 (ieeeValue32 b) g →
      ieeeEncodeSingle useC b g = b) ∧
    (∀ useC b g, b < 2 ^ 64 → ¬ isNaN 11 52 b → GuessOKV cfg64 (ieeeValue64 b) g →
      ieeeEncodeDouble useC b g = b) := by
  refine ⟨fun useC b => ?_, fun useC b => ?_, fun b g => rfl, fun b g => rfl, ?_, ?_⟩
  · cases useC
    · exact C19_decode32 b
    · exact hostVal32_eq b
  · cases useC
    · exact C19_decode64 b
    · exact hostVal64_eq b
  · intro useC b g hb hn hg
    cases useC
    · show encodeSingle (hostVal32 b) g = b
      rw [hostVal32_eq]; exact C19_encode32 b hb hn g hg
    · rfl
  · intro useC b g hb hn hg
    cases useC
    · show encodeDouble (hostVal64 b) g = b
      rw [hostVal64_eq]; exact C19_encode64 b hb hn g hg
    · rfl

example : ieeeEncodeSingle true 0x00000001 0 = 0x00000001 := C19_native_paths.2.2.1 _ _
example : ieeeDecodeSingle true 0x00000001 = .fin false (1 / 2 ^ 149) := by decide +kernel

/-- **the switch works**: on a host whose type sizes are right and whose libm meets the guess contract on
the 17 self-test values, the start-up test passes, `bufr_use_C_ieee754(1)` returns 1 and sets
`C_use_ieee754`, and `bufr_use_C_ieee754(0)` turns it off again. -/
theorem C19_native_on (env : SelfTestEnv) (hs : env.sizesOK = true)
    (h32 : ∀ b ∈ selfTestValues32, GuessOKV cfg32 (hostVal32 b) (env.guess32 b))
    (h64 : ∀ b ∈ selfTestValues64, GuessOKV cfg64 (hostVal64 b) (env.guess64 b)) :
    (useCIeee754 env {} 1).2 = 1 ∧ (useCIeee754 env {} 1).1.cUse = true ∧
    (useCIeee754 env (useCIeee754 env {} 1).1 0).2 = 0 ∧
    (useCIeee754 env (useCIeee754 env {} 1).1 0).1.cUse = false := by
  unfold useCIeee754
  simp [checkCompliance_passes env hs h32 h64]

end Bufr.C19
