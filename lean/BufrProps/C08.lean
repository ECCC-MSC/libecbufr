import BufrProofs.Scale
import BufrProofs.ScaleSingle
/-
  C08 — Scaling arithmetic: every representable raw value survives decode then encode.

  Model: BufrModel/Scale.lean over the exact soft-float BufrModel/SoftFloat.lean, tied to
  bufr_tables.c / bufr_value.c / bufr_desc.c by the `cvt.*` correspondence streams.

  Domain (`Enc.Valid`): width 1..32, |reference| ≤ 2^30, scale −16..15 — every numeric entry of every
  shipped Table B version and the synthetic sweep of the check.  All statements quantify over ALL
  encodings of the domain and ALL raw values / rationals; nothing is enumerated.
  `pow(10,s)` is `fl 53 (10^s)` (contract checked at run time by `scale.powcheck`).
-/
namespace Bufr.C08
open Bufr Bufr.SF Bufr.Scale

/-- **encode on the grid**: a physical value within ½ − 2^−18 (in units of 10^−scale) of grid
point `k`, whose raw value `k − ref` is a valid non-missing pattern, and which passes the library's
own range test `fmin ≤ x ≤ fmax`, is stored as `k − ref` — whichever of the four arithmetic
branches (`delta < reference`, `fval > 0`, `round(fval·10^s)`, and `round(fval/10^−s)` for
`scale < 0`) the C code takes.
(The margin is 2^−18 rather than DESIGN's 2^−20: with |k| up to 2^32+2^30 two roundings of
a product already cost 1.25·2^−20.) -/
theorem C08_encode_grid (code : Desc) (e : Enc) (hv : e.Valid) (x : ℚ) (k : ℤ)
    (hk : 0 ≤ k - e.ref ∧ k - e.ref < 2 ^ e.nbits - 1)
    (hx : |x * (10:ℚ) ^ e.scale - k| ≤ 1 / 2 - 1 / 2 ^ 18)
    (hr : dFmin e ≤ x ∧ x ≤ dFmax e) :
    cvtDvalToI64 code e (.fin x) = (k - e.ref).toNat :=
  cvtDvalToI64_onGrid code e hv x k
    ⟨hk.1, lt_of_lt_of_le hk.2 (by have := two_pow_nbits_le e hv; omega), hx⟩ hk.2
    (not_lt.mpr hr.1) (not_lt.mpr hr.2)

example : (⟨2, -27315, 16⟩ : Enc).Valid := by decide
example : cvtDvalToI64 12101 ⟨2, -27315, 16⟩ (.fin (2665 / 100)) = 29980 := by decide +kernel
example : dFmin ⟨2, -27315, 16⟩ ≤ 2665 / 100 ∧ (2665:ℚ) / 100 ≤ dFmax ⟨2, -27315, 16⟩ := by
  decide +kernel

/-- the same away from the two edge grid points: no range hypothesis is needed, the library's
range test cannot reject the value -/
theorem C08_encode_grid_interior (code : Desc) (e : Enc) (hv : e.Valid) (x : ℚ) (k : ℤ)
    (hk : 1 ≤ k - e.ref ∧ k - e.ref < 2 ^ e.nbits - 2)
    (hx : |x * (10:ℚ) ^ e.scale - k| ≤ 1 / 2 - 1 / 2 ^ 18) :
    cvtDvalToI64 code e (.fin x) = (k - e.ref).toNat := by
  have hp := two_pow_nbits_le e hv
  obtain ⟨h1, h2⟩ := abs_le.mp hx
  have hkq : (e.ref:ℚ) + 1 ≤ (k:ℚ) := by exact_mod_cast (by omega : e.ref + 1 ≤ k)
  have hkM : (k:ℚ) + 1 ≤ (((2:ℤ) ^ e.nbits - 2 + e.ref : ℤ) : ℚ) := by
    exact_mod_cast (by omega : k + 1 ≤ (2:ℤ) ^ e.nbits - 2 + e.ref)
  apply cvtDvalToI64_onGrid code e hv x k ⟨by omega, by omega, hx⟩ (by omega)
  · exact ge_fmin_of_scaled e hv x (by linarith only [h1, hkq])
  · exact le_fmax_of_scaled e hv x (by linarith only [h2, hkM])

example : (1:ℤ) ≤ 2665 - (-27315) ∧ (2665:ℤ) - (-27315) < 2 ^ 16 - 2 := by decide

/-- **round trip** (double path): for every encoding of the domain and every raw value below the
all-ones pattern, converting to the physical value and back yields the raw value -/
theorem C08_roundtrip (code : Desc) (e : Enc) (hv : e.Valid) (i : ℕ) (hi : i < 2 ^ e.nbits - 1) :
    cvtDvalToI64 code e (.fin (cvtI64ToDval e i)) = i :=
  cvtDvalToI64_decode code e hv i hi

example : (29980:ℕ) < 2 ^ (⟨2, -27315, 16⟩ : Enc).nbits - 1 := by decide
example : cvtDvalToI64 12101 ⟨2, -27315, 16⟩ (.fin (cvtI64ToDval ⟨2, -27315, 16⟩ 29980)) = 29980 := by
  decide +kernel
-- an all-negative range (0 02 129: scale 0, reference −150, 5 bits), where `fmax` is computed from a
-- wrapped unsigned sum, and a scale for which `(int)pow(10,s)` does not fit an `int`
example : (⟨0, -150, 5⟩ : Enc).Valid ∧ (⟨15, -8000, 14⟩ : Enc).Valid ∧ (⟨-16, 0, 6⟩ : Enc).Valid := by decide
example : cvtDvalToI64 2129 ⟨0, -150, 5⟩ (.fin (cvtI64ToDval ⟨0, -150, 5⟩ 30)) = 30 := by decide +kernel
example : cvtDvalToI64 59118 ⟨15, -8000, 14⟩ (.fin (cvtI64ToDval ⟨15, -8000, 14⟩ 16382)) = 16382 := by
  decide +kernel

/-- **strictly increasing**: physical values increase strictly with the raw value -/
theorem C08_strict_mono (e : Enc) (hv : e.Valid) (i j : ℕ) (h : i < j) (hj : j < 2 ^ e.nbits - 1) :
    cvtI64ToDval e i < cvtI64ToDval e j := by
  exact decode_strict_mono e hv i j (Int.natCast_nonneg i) (by exact_mod_cast h)
    (natCast_lt_allOnes hj)

example : cvtI64ToDval ⟨2, -27315, 16⟩ 29980 < cvtI64ToDval ⟨2, -27315, 16⟩ 29981 := by decide +kernel

/-- **missing iff all ones** (decode side): a raw value of the width decodes to the library's
"missing" double exactly when it is the all-ones pattern.  (Class 31 is handled by the callers of
the conversion, which never treat a delayed-replication count as missing; `C08_class31_count`.) -/
theorem C08_missing_iff (e : Enc) (hv : e.Valid) (i : ℕ) (hi : i ≤ 2 ^ e.nbits - 1) :
    isMissingDouble (.fin (cvtI64ToDval e i)) = true ↔ i = 2 ^ e.nbits - 1 := by
  show decide (cvtI64ToDval e i = maxDouble) = true ↔ _
  rw [decide_eq_true_iff]
  constructor
  · intro hm
    by_contra hne
    exact decode_not_missing e hv i (Int.natCast_nonneg i)
      (natCast_lt_allOnes (lt_of_le_of_ne hi hne)) hm
  · intro h
    rw [h, cast_allOnes, decode_missing e hv]

example : isMissingDouble (.fin (cvtI64ToDval ⟨2, -27315, 16⟩ 65535)) = true := by decide +kernel
example : isMissingDouble (.fin (cvtI64ToDval ⟨2, -27315, 16⟩ 65534)) = false := by decide +kernel

/-- **missing encodes to all ones** (encode side): NaN, ±∞ and `DBL_MAX` are stored as the all-ones
pattern; by `C08_encode_grid` no value on the grid is -/
theorem C08_encode_missing (code : Desc) (e : Enc) (hv : e.Valid) (x : FP)
    (h : isMissingDouble x = true) : cvtDvalToI64 code e x = 2 ^ e.nbits - 1 :=
  encode_missing code e hv x h

example : cvtDvalToI64 12101 ⟨2, -27315, 16⟩ .nan = 65535 := by decide +kernel

/-- class 31: the largest count `2^n − 1` is accepted as a value (Reg. 94.1.5) -/
theorem C08_class31_count (e : Enc) (hv : e.Valid) (x : ℚ) (h : x > dFmax e) :
    cvtDvalToI64 31001 e (.fin x) = 2 ^ e.nbits - 1 :=
  encode_rejected 31001 e hv x (Or.inr h)

example : cvtDvalToI64 31001 ⟨0, 0, 8⟩ (.fin 255) = 255 := by decide +kernel

/-- the all-ones pattern of `bufr_missing_ivalue`, for every width 1..64 (full strength since the
`1ULL << 64` repair, DESIGN §10 #23) -/
theorem C08_missing_pattern (n : ℕ) (h1 : 1 ≤ n) (h64 : n ≤ 64) :
    missingIvalue n = 2 ^ n - 1 := by
  by_cases h : n ≤ 63
  · exact missingIvalue_eq n h1 h
  · have : n = 64 := by omega
    subst this
    exact missingIvalue_ge64 _ (by norm_num)

example : missingIvalue 12 = 4095 := by decide
example : missingIvalue 64 = 18446744073709551615 := by decide

/-- **out of range**: a physical value more than half a unit below the smallest or above the largest
representable value is stored as the all-ones pattern, never as another value — for every encoding
of the domain, all-negative ranges and negative scales included (full strength since the repairs of
the wrapped upper bound and of the missing overflow test in the `scale < 0` branch). -/
theorem C08_out_of_range (code : Desc) (e : Enc) (hv : e.Valid) (x : ℚ)
    (h : x * (10:ℚ) ^ e.scale < (e.ref:ℚ) - 1 / 2 ∨
         x * (10:ℚ) ^ e.scale > (((2:ℤ) ^ e.nbits - 2 + e.ref : ℤ) : ℚ) + 1 / 2) :
    cvtDvalToI64 code e (.fin x) = 2 ^ e.nbits - 1 := by
  rcases h with h | h
  · exact encode_rejected code e hv x (Or.inl (below_fmin e hv x h))
  · exact encode_rejected code e hv x (Or.inr (above_fmax e hv x h))

example : (-274:ℚ) * (10:ℚ) ^ (2:ℤ) < ((-27315:ℤ):ℚ) - 1 / 2 := by norm_num
example : cvtDvalToI64 12101 ⟨2, -27315, 16⟩ (.fin (-274)) = 65535 := by decide +kernel
-- the former counterexamples: all-negative range with scale −1 (10000 was stored as 2000) and with
-- scale 10 (1.2147478651 was stored as 3)
example : (⟨-1, -1000, 8⟩ : Enc).Valid ∧ (⟨10, -5000, 8⟩ : Enc).Valid := by decide
example : cvtDvalToI64 63001 ⟨-1, -1000, 8⟩ (.fin 10000) = 255 := by decide +kernel
example : cvtDvalToI64 63001 ⟨10, -5000, 8⟩ (.fin (12147478651 / 10000000000)) = 255 := by decide +kernel

/-- **out of range, as the code tests it**: a value the library's range test rejects
(`x < fmin` or `x > fmax`) is stored as the all-ones pattern -/
theorem C08_range_test_rejects (code : Desc) (e : Enc) (hv : e.Valid) (x : ℚ)
    (h : x < dFmin e ∨ x > dFmax e) : cvtDvalToI64 code e (.fin x) = 2 ^ e.nbits - 1 :=
  encode_rejected code e hv x h

example : (30000:ℚ) > dFmax ⟨2, -27315, 16⟩ := by decide +kernel
example : cvtDvalToI64 12101 ⟨2, -27315, 16⟩ (.fin 30000) = 65535 := by decide +kernel

/-- **the bounds of a negative-scale element are its exact extreme values**: for `scale < 0` the
library multiplies by the exact `10^−scale`, so when the extreme values are below 2^53 in magnitude
`fmin = ref·10^−scale` and `fmax = (2^n − 2 + ref)·10^−scale` exactly (before the repair they were
`ref / pow(10,scale)` with an inexact power and could land one ulp inside the range) -/
theorem C08_neg_scale_bounds_exact (e : Enc) (hv : e.Valid) (hs : e.scale < 0)
    (hlo : |e.ref| * 10 ^ (-e.scale).toNat < 2 ^ 53)
    (hhi : |(2:ℤ) ^ e.nbits - 2 + e.ref| * 10 ^ (-e.scale).toNat < 2 ^ 53) :
    dFmin e = (e.ref:ℚ) * (10:ℚ) ^ (-e.scale) ∧
    dFmax e = ((((2:ℤ) ^ e.nbits - 2 + e.ref : ℤ)) : ℚ) * (10:ℚ) ^ (-e.scale) := by
  -- `z / 10^scale` is the integer `z·10^−scale`, below 2^53
  have key : ∀ z : ℤ, |z| * 10 ^ (-e.scale).toNat < 2 ^ 53 →
      fl 53 ((z:ℚ) / T10 e.scale) = (z:ℚ) * (10:ℚ) ^ (-e.scale) := by
    intro z hz
    obtain ⟨m, hm⟩ := Int.eq_ofNat_of_zero_le (show 0 ≤ -e.scale by omega)
    rw [hm, Int.toNat_natCast] at hz
    rw [div_eq_mul_inv, ← zpow_neg, hm, zpow_natCast,
      show (z:ℚ) * (10:ℚ) ^ m = ((z * 10 ^ m : ℤ) : ℚ) by push_cast; rfl]
    exact fl_int 53 _ (by rwa [abs_mul, abs_of_pos (show (0:ℤ) < 10 ^ m by positivity)])
  rw [dFmin_eq, dFmax_eq e hv, dP_eq_T e hv,
    show (2:ℤ) ^ e.nbits - 1 - 1 + e.ref = 2 ^ e.nbits - 2 + e.ref by ring]
  exact ⟨key _ hlo, key _ hhi⟩

/-- **encode on the grid, negative scale, exact range**: with exact bounds the library's range test is
the true range, so the hypothesis is simply that the scaled value lies in `[ref, 2^n − 2 + ref]` — the
exact minimum and maximum included (DESIGN-form statement; repaired finding "range edge"). -/
theorem C08_encode_grid_neg_scale (code : Desc) (e : Enc) (hv : e.Valid) (hs : e.scale < 0)
    (hlo : |e.ref| * 10 ^ (-e.scale).toNat < 2 ^ 53)
    (hhi : |(2:ℤ) ^ e.nbits - 2 + e.ref| * 10 ^ (-e.scale).toNat < 2 ^ 53)
    (x : ℚ) (k : ℤ) (hk : 0 ≤ k - e.ref ∧ k - e.ref < 2 ^ e.nbits - 1)
    (hx : |x * (10:ℚ) ^ e.scale - k| ≤ 1 / 2 - 1 / 2 ^ 18)
    (hin : (e.ref:ℚ) ≤ x * (10:ℚ) ^ e.scale ∧
           x * (10:ℚ) ^ e.scale ≤ (((2:ℤ) ^ e.nbits - 2 + e.ref : ℤ) : ℚ)) :
    cvtDvalToI64 code e (.fin x) = (k - e.ref).toNat := by
  obtain ⟨h1, h2⟩ := C08_neg_scale_bounds_exact e hv hs hlo hhi
  have hpos : (0:ℚ) < (10:ℚ) ^ (-e.scale) := zpow_pos (by norm_num) _
  have hone : (10:ℚ) ^ e.scale * (10:ℚ) ^ (-e.scale) = 1 := by
    rw [← zpow_add₀ (by norm_num : (10:ℚ) ≠ 0)]; simp
  have hxe : x = x * (10:ℚ) ^ e.scale * (10:ℚ) ^ (-e.scale) := by rw [mul_assoc, hone, mul_one]
  apply C08_encode_grid code e hv x k hk hx
  rw [h1, h2]
  constructor
  · calc (e.ref:ℚ) * (10:ℚ) ^ (-e.scale) ≤ x * (10:ℚ) ^ e.scale * (10:ℚ) ^ (-e.scale) :=
          mul_le_mul_of_nonneg_right hin.1 hpos.le
      _ = x := hxe.symm
  · calc x = x * (10:ℚ) ^ e.scale * (10:ℚ) ^ (-e.scale) := hxe
      _ ≤ _ := mul_le_mul_of_nonneg_right hin.2 hpos.le

-- 0 02 067 (Hz, scale −5, 15 bits): the exact maximum 3276600000 is the bound, and is accepted
example : (⟨-5, 0, 15⟩ : Enc).Valid ∧ |(⟨-5, 0, 15⟩ : Enc).ref| * 10 ^ 5 < 2 ^ 53 ∧
    |(2:ℤ) ^ 15 - 2 + 0| * 10 ^ 5 < 2 ^ 53 := by decide
example : dFmax ⟨-5, 0, 15⟩ = 3276600000 := by decide +kernel
example : cvtDvalToI64 2067 ⟨-5, 0, 15⟩ (.fin 3276600000) = 32766 := by decide +kernel

/-- **the range of `bufr_descriptor_get_range` is the encoder's range test**: outside class 31,
`[min, max]` are exactly the bounds `fmin`, `fmax` the encoder compares with — so a value
`bufr_descriptor_set_dvalue` keeps is never refused by the encoder, and a value it refuses would
have been stored as missing anyway. -/
theorem C08_range_is_encoder_range (code : Desc) (e : Enc) (h31 : Desc.x code ≠ 31) :
    getRange code e = (dFmin e, dFmax e) :=
  getRange_eq code e h31

example : getRange 12101 ⟨2, -27315, 16⟩ = (dFmin ⟨2, -27315, 16⟩, dFmax ⟨2, -27315, 16⟩) := by
  decide +kernel

/-- **round trip, single precision, every scale**.  *Partial*: forced hypotheses `|ref| ≤ 2^20` and
`|i + ref| ≤ 2^20`.  A float carries 24 significand bits and the round trip spends two roundings
(`|i+ref|·2^−23`), the `delta < reference` branch a third on `reference/val_pow`; 2^20 is what the
three branches admit with simple constants.  The code is observed (C-side exhaustive sweeps) to
round-trip up to 2^22 and `C08_single_roundtrip_fails` shows it does not at 2^22.1. -/
theorem C08_single_roundtrip_partial (code : Desc) (e : Enc) (hv : e.Valid) (hr : |e.ref| ≤ 2 ^ 20)
    (i : ℕ) (hi : i < 2 ^ e.nbits - 1) (hN : |(i:ℤ) + e.ref| ≤ 2 ^ 20) :
    cvtFvalToI32 code e (.fin (cvtI32ToFval e i)) = i := by
  have hi' := natCast_lt_allOnes hi
  have hr' := abs_le.mp hr
  rw [cvtI32ToFval_eq e i hv.n1 hv.n32 (by omega) hi' (lt_of_le_of_lt hN (by norm_num))]
  exact (cvtFvalToI32_small code e (i:ℤ) ⟨hv, hr, Int.natCast_nonneg i, hi', hN⟩).trans
    (Int.toNat_natCast i)

example : (⟨2, -27315, 16⟩ : Enc).Valid ∧ |(⟨2, -27315, 16⟩ : Enc).ref| ≤ 2 ^ 20 ∧
    |((30000:ℕ):ℤ) + (⟨2, -27315, 16⟩ : Enc).ref| ≤ 2 ^ 20 := by decide
example : cvtFvalToI32 12101 ⟨2, -27315, 16⟩ (.fin (cvtI32ToFval ⟨2, -27315, 16⟩ 30000)) = 30000 := by
  decide +kernel

/-- **round trip, single precision, scale 0** — the honest bound of a 24-bit significand.
*Partial*: forced hypotheses `|ref| < 2^24`, `i < 2^24`, `|i + ref| < 2^24`. -/
theorem C08_single_roundtrip_scale0_partial (code : Desc) (e : Enc) (hs : e.scale = 0)
    (hn1 : 1 ≤ e.nbits) (hn : e.nbits ≤ 32) (hr : |e.ref| < 2 ^ 24)
    (i : ℕ) (hi : i < 2 ^ e.nbits - 1) (hi24 : i < 2 ^ 24) (hN : |(i:ℤ) + e.ref| < 2 ^ 24) :
    cvtFvalToI32 code e (.fin (cvtI32ToFval e i)) = i := by
  have hi' := natCast_lt_allOnes hi
  have hr' := abs_lt.mp hr
  rw [cvtI32ToFval_exact24 e i hs hn1 hn (by omega) hi' hN,
    cvtFvalToI32_exact24 code e _ ⟨hs, hn1, hn, hr, hN, by omega, by omega, by omega⟩,
    add_sub_cancel_right, Int.toNat_natCast]

example : cvtFvalToI32 63001 ⟨0, 1, 28⟩ (.fin (cvtI32ToFval ⟨0, 1, 28⟩ 16777214)) = 16777214 := by
  decide +kernel

/-- … beyond the hypotheses the single-precision pair does not round-trip:
(a) scale 0, reference 0, 30 bits, raw 2^24 + 1 comes back as 2^24;
(b) scale 7, reference 2^20, 24 bits, raw 3951441 (|i+ref| = 5000017 < 2^24) comes back changed:
for scale ≠ 0 two float roundings cost up to |i+ref|·2^−23, so the honest bound there is 2^22. -/
theorem C08_single_roundtrip_fails :
    cvtFvalToI32 63001 ⟨0, 0, 30⟩ (.fin (cvtI32ToFval ⟨0, 0, 30⟩ 16777217)) ≠ 16777217 ∧
    cvtFvalToI32 63001 ⟨7, 1048576, 24⟩ (.fin (cvtI32ToFval ⟨7, 1048576, 24⟩ 3951441)) ≠ 3951441 := by
  decide +kernel

/-- **the INT32-with-reference path of `bufr_put_desc_value`** (scale 0: the integer is converted to
`double` and sent through the double encoder): every integer of the element's range is stored as
`v − ref`.  Full strength since repository commit 8cba48a (DESIGN §10 #11). -/
theorem C08_int32_path (code : Desc) (e : Enc) (hv : e.Valid) (hs : e.scale = 0)
    (v : ℤ) (hlo : e.ref ≤ v) (hhi : v - e.ref < 2 ^ e.nbits - 1) :
    int32Path code e v = (v - e.ref).toNat := by
  have h0 : 0 ≤ v - e.ref := by omega
  have hp := two_pow_nbits_le e hv
  have hr := abs_le.mp hv.r
  -- at scale 0 the decoder is exact: v is the decoded value of raw v − ref
  have hdec : cvtI64ToDval e (v - e.ref) = (v:ℚ) := by
    rw [cvtI64ToDval_eq e hv _ h0 hhi, dP_eq_T e hv, hs, sub_add_cancel]
    simp only [T10, zpow_zero, div_one]
    exact fl_int 53 v (by rw [abs_lt]; constructor <;> omega)
  have hrt := C08_roundtrip code e hv (v - e.ref).toNat
    (by rw [Int.toNat_lt h0, cast_allOnes]; exact hhi)
  rwa [Int.toNat_of_nonneg h0, hdec] at hrt

example : (⟨0, 1, 28⟩ : Enc).Valid := by decide
example : int32Path 63001 ⟨0, 1, 28⟩ 16777219 = 16777218 := by decide +kernel

end Bufr.C08
