import BufrModel.History
import BufrModel.Sprintf
import BufrProofs.Sprintf
import BufrProps.C12
import BufrProofs.Dump
import BufrProps.C19
import Generated.SwitchSites
import Generated.StaticState
import Generated.SprintfSites
/-
  C15 — results do not depend on diagnostic settings or on what was processed before; diagnostic
  text of any length is produced without memory errors.

  What each clause rests on:

  * SWITCHES.  The model functions behind encoding and decoding (`createTemplate`, `expandDatasubset`,
    `encodeData`, `decodeData`, the value setters) have no `Switches` parameter: their independence is
    by construction, and `C15_switches` says so for the record the driver keeps (`LibState.sw`).  The
    content is the tie: (1) `C15_sites_covered` — every place where the C reads a switch
    (Generated/SwitchSites.lean, extracted from the current sources on every check) is an accessor
    mirrored by `Switches.set`, or guards statements that syntactically can only produce text, or is
    annotated result-neutral with a one-line reason; (2) the two switches that do reach a model
    function have their own theorems, cited here: `C15_ieee_switch` (C19) and `C15_trimzero_switch`
    (C13); (3) the 16-configuration stream of props/c15.py: the implementation's outputs are equal
    under all settings and equal to the model's.
  * HISTORY.  `C15_history`: whatever sequence of lookups, switch settings, reference-value overrides
    and first uses of static tables came before, the lookup functions the library answers with
    (`History.view`) are the same, the cache invariant of C12 is kept and the tables are untouched;
    `C15_history_function`: hence any function of the tables gives the same result after any two
    histories.  `C15_state_covered`: the inventory of process-wide variables and storage pools
    (Generated/StaticState.lean) contains nothing but switches, handlers, constants filled on first
    use, allocator bookkeeping and last-error information.  Tie: the history stream (alone in a fresh
    process = after any interleaving).
  * TEXT.  `C15_sprintf_bound`: `Sprintf.maxLen` bounds the rendering of every format for all arguments
    of the given C types; `C15_sprintf_site`: a site the generated table calls safe has room for every
    such rendering; `C15_sprintf_partial`: all sites outside the recorded finding are safe;
    `C15_sprintf_fails`: the recorded finding (public printers without a size parameter) is real.
-/
namespace Bufr.C15
open Bufr Bufr.Tbl Bufr.History Bufr.Generated

/-- **the setters as the C couples them**: debug mode switches verbose mode on and keeps it on;
leaving debug mode gives verbose mode back; the other two are plain assignments. -/
theorem C15_switch_setters (s : Switches) (v : Int) :
    (v ≠ 0 → (s.setDebug v).isDebug = true ∧ (s.setDebug v).isVerbose = true) ∧
    (s.isDebug = true → ((s.setVerbose 0).isVerbose = true)) ∧
    ((s.setDebug 0).isDebug = false) ∧
    (s.verbosemode = 0 → v ≠ 0 → ((s.setDebug v).setDebug 0).verbosemode = 0) ∧
    ((s.setMeta v).isMeta = decide (v ≠ 0) ∧ (s.setTrimzero v).isTrimzero = decide (v ≠ 0)) := by
  refine ⟨fun hv => ?_, fun hd => ?_, ?_, fun h0 hv => ?_, ?_⟩
  · unfold Switches.setDebug Switches.isDebug Switches.isVerbose
    simp only [hv, if_false]
    by_cases h0 : s.verbosemode = 0 <;> simp [h0, hv]
  · unfold Switches.isDebug at hd
    unfold Switches.setVerbose Switches.isVerbose
    have : s.debugmode ≠ 0 := by simpa using hd
    simp [this]
  · unfold Switches.setDebug Switches.isDebug
    by_cases h1 : s.verbosemode = -1 <;> simp [h1]
  · unfold Switches.setDebug
    simp [hv, h0]
  · unfold Switches.setMeta Switches.isMeta Switches.setTrimzero Switches.isTrimzero
    by_cases hv : v = 0 <;> simp [hv]

example : (({} : Switches).setDebug 1).isVerbose = true := by decide
example : ((({} : Switches).setDebug 1).setVerbose 0).isVerbose = true := by decide
example : ((({} : Switches).setVerbose 1).setDebug 1 |>.setDebug 0).isVerbose = true := by decide
example : (((({} : Switches).setDebug 2).setDebug 0)) = {} := by decide

/-- **switch independence of the model**: nothing the library answers depends on the switch record —
for any state, replacing the switches (or running any switch setter) leaves the lookup view, and
with it every model function of the tables, unchanged.  (By construction: the model functions have
no `Switches` parameter; see the header for what ties this to the code.) -/
theorem C15_switches (L : Libc) (h : Heap) (s : LibState) (sw' : Switches) (w : Sw) (v : Int) :
    view L h { s with sw := sw' } = view L h s ∧
    view L h (step L h s (.setSw w v)) = view L h s ∧
    (step L h s (.setSw w v)).tables = s.tables := ⟨rfl, rfl, rfl⟩

/-- the functions C15's workloads go through take the tables, a template, descriptors, values — no switch -/
example (T : Tables) (fuel ed : Nat) (ds : List Nat) : Except XErr Template := createTemplate T fuel ed ds
example (ss : List (List Node)) (flag : Nat) (x : Int) : Nat × W := encodeData ss flag x

/-- **every read of a switch is accounted for** (generated from the current sources): accessor,
alias, syntactically harmless guard, or annotated -/
theorem C15_sites_covered : switchSites.all SwitchSite.covered = true ∧ switchSites.length ≥ 200 := by
  refine ⟨switchSites_covered, ?_⟩
  rw [switchSites_length]; decide

/-- **the native IEEE switch** (C19): both settings decode every pattern to the same value and encode
every non-NaN value to the same pattern -/
theorem C15_ieee_switch :
    (∀ u u' b, ieeeDecodeSingle u b = ieeeDecodeSingle u' b) ∧
    (∀ u u' b, ieeeDecodeDouble u b = ieeeDecodeDouble u' b) ∧
    (∀ u u' b g, b < 2 ^ 64 → ¬ Spec.isNaN 11 52 b → GuessOKV cfg64 (Spec.ieeeValue64 b) g →
      ieeeEncodeDouble u b g = ieeeEncodeDouble u' b g) ∧
    (∀ u u' b g, b < 2 ^ 32 → ¬ Spec.isNaN 8 23 b → GuessOKV cfg32 (Spec.ieeeValue32 b) g →
      ieeeEncodeSingle u b g = ieeeEncodeSingle u' b g) := by
  obtain ⟨h1, h2, _, _, h5, h6⟩ := C19.C19_native_paths
  exact ⟨fun u u' b => by rw [h1 u b, h1 u' b], fun u u' b => by rw [h2 u b, h2 u' b],
         fun u u' b g hb hn hg => by rw [h6 u b g hb hn hg, h6 u' b g hb hn hg],
         fun u u' b g hb hn hg => by rw [h5 u b g hb hn hg, h5 u' b g hb hn hg]⟩

/-- **zero trimming** (C13): the dump text of a decoded value differs with the switch, what the loader
makes of it does not -/
theorem C15_trimzero_switch (trim trim' : Bool) (code : Desc) (h31 : Desc.x code ≠ 31) (e : Scale.Enc) (hv : e.Valid)
    (i : ℕ) (hi : i < 2 ^ e.nbits - 1) :
    Scale.cvtDvalToI64 code e (Printf.strtod (Dump.printScaledValue trim (.f64 (.fin (Scale.cvtI64ToDval e i))) (some e.scale))) =
    Scale.cvtDvalToI64 code e (Printf.strtod (Dump.printScaledValue trim' (.f64 (.fin (Scale.cvtI64ToDval e i))) (some e.scale))) := by
  rw [Dump.cvtDvalToI64_printScaledValue trim code e hv i hi,
    Dump.cvtDvalToI64_printScaledValue trim' code e hv i hi]

theorem view_of_inv (L : Libc) (hL : L.Contract) (h : Heap) (s : LibState) (hI : CacheInv h s.tables) :
    view L h s = { fetchB := fun d => lookupSpec (contentB h s.tables.loc.tableB) (contentB h s.tables.master.tableB) d,
                   fetchD := fun d => Tbl.fetchD L s.tables d } := by
  unfold view
  congr 1
  funext d
  rw [(C12.C12_lookup L hL h s.tables d hI).1]
  rfl

theorem step_inv (L : Libc) (hL : L.Contract) (h : Heap) (s : LibState) (hI : CacheInv h s.tables) (op : HOp) :
    CacheInv h (step L h s op).tables ∧ (step L h s op).tables.master = s.tables.master ∧
    (step L h s op).tables.loc = s.tables.loc := by
  cases op with
  | lookupB d =>
    obtain ⟨_, hI', hm, hl⟩ := C12.C12_lookup L hL h s.tables d hI
    exact ⟨hI', hm, hl⟩
  | lookupD d => exact ⟨hI, rfl, rfl⟩
  | setSw w v => exact ⟨hI, rfl, rfl⟩
  | override => exact ⟨hI, rfl, rfl⟩
  | touchStatics => exact ⟨hI, rfl, rfl⟩

/-- **history independence of the lookups**: from a state meeting the cache invariant of C12 (every
state reachable by loading and looking up, `C12_ops_preserve_inv`), any sequence of Table B and
Table D lookups, switch settings, reference-value overrides and first uses of the static tables
keeps the invariant, leaves the loaded tables untouched, and leaves what the library answers to
every lookup — the `Tables` record the model functions take — exactly as it was. -/
theorem C15_history (L : Libc) (hL : L.Contract) (h : Heap) (ops : List HOp) :
    ∀ (s : LibState), CacheInv h s.tables →
      CacheInv h (run L h s ops).tables ∧
      (run L h s ops).tables.master = s.tables.master ∧ (run L h s ops).tables.loc = s.tables.loc ∧
      view L h (run L h s ops) = view L h s := by
  induction ops with
  | nil => intro s hI; exact ⟨hI, rfl, rfl, rfl⟩
  | cons op rest ih =>
    intro s hI
    obtain ⟨hI1, hm1, hl1⟩ := step_inv L hL h s hI op
    obtain ⟨hI2, hm2, hl2, hv2⟩ := ih (step L h s op) hI1
    have hrun : run L h s (op :: rest) = run L h (step L h s op) rest := rfl
    rw [hrun]
    refine ⟨hI2, hm2.trans hm1, hl2.trans hl1, ?_⟩
    rw [hv2, view_of_inv L hL h _ hI1, view_of_inv L hL h s hI, hm1, hl1]
    congr 1
    funext d
    exact fetchD_congr L s.tables (step L h s op).tables hm1 hl1 d

/-- **history independence of results**: whatever is computed from the tables — a template, an
expansion, a decoded data set — is the same after any two histories (`F` is any function of the
lookup record, e.g. `fun T => decodeData T fuel t enforce nsub compressed bytes`). -/
theorem C15_history_function {α : Type} (F : Tables → α) (L : Libc) (hL : L.Contract) (h : Heap) (s : LibState)
    (hI : CacheInv h s.tables) (ops₁ ops₂ : List HOp) :
    F (view L h (run L h s ops₁)) = F (view L h (run L h s ops₂)) := by
  rw [(C15_history L hL h ops₁ s hI).2.2.2, (C15_history L hL h ops₂ s hI).2.2.2]

-- the hypothesis is met by the state of C12's worked example, after real lookups
example : CacheInv C12.stFetched.1 C12.stFetched.2 := C12.stFetched_inv
example (fuel ed : Nat) (ds : List Nat) (ops : List HOp) :
    createTemplate (view glibc C12.stFetched.1 (run glibc C12.stFetched.1 { tables := C12.stFetched.2 } ops)) fuel ed ds =
    createTemplate (view glibc C12.stFetched.1 { tables := C12.stFetched.2 }) fuel ed ds := by
  have := C15_history_function (fun T => createTemplate T fuel ed ds) glibc glibc_contract C12.stFetched.1
    { tables := C12.stFetched.2 } C12.stFetched_inv ops []
  simpa [run] using this

/-- **static tables**: `bufr_missing_ivalue` reads `msng_values`, filled on first use: the answer is
the closed form of the model whether or not the table had been filled by an earlier call -/
theorem C15_statics (ready ready' : Bool) (n : Nat) :
    missingFromStatic ready n = missingFromStatic ready' n ∧
    missingFromStatic ready n = Bufr.missingIvalue (n : Int) := by
  refine ⟨rfl, ?_⟩
  unfold missingFromStatic Bufr.missingIvalue
  by_cases h0 : n = 0
  · simp [h0]
  · by_cases h64 : n ≥ 64
    · have : (n : Int) ≥ 64 := by omega
      simp [h0, h64, this]
    · have h1 : ¬ ((n : Int) ≥ 64) := by omega
      have h2 : n < 64 := by omega
      simp [h0, h64, h1, h2]

example : missingFromStatic false 12 = 4095 ∧ missingFromStatic true 64 = 2 ^ 64 - 1 := by decide

/-- **the inventory of process-wide state** (generated from the current sources): every variable of
static storage duration is a switch, a handler, a constant filled on first use, allocator
bookkeeping or last-error information; the storage pool `ddo_tbe` of a template is only created,
appended to, tested and freed -/
theorem C15_state_covered :
    staticState.all StateVar.covered = true ∧
    poolUses.all (fun u => u.2.2.2 ∈ ["append", "free", "assign", "test"]) = true :=
  ⟨staticState_covered, poolUses_storage_only⟩

/-- **the bound is a bound**: for every format the model parses and all arguments within the bounds
their C types give, `sprintf` produces a text and it is at most `maxLen` characters long -/
theorem C15_sprintf_bound (fmt : List Nat) (bs : List Sprintf.ArgB) (as : List Sprintf.Arg) (m : Nat)
    (hm : Sprintf.maxLen fmt bs = some m) (hok : Sprintf.argsOK bs as = true) :
    ∃ out, Sprintf.render fmt as = some out ∧ out.length ≤ m :=
  Sprintf.render_length_le fmt bs as m hm hok

-- "%f --> %llu" with a double and an unsigned long long: up to 342 characters (bufr_put_desc_value)
example : Sprintf.maxLen [37, 102, 32, 45, 45, 62, 32, 37, 108, 108, 117] [.dbl, .int 64 false] = some 342 := by decide +kernel
example : Sprintf.argsOK [.dbl, .int 64 false] [.dbl (.fin SF.maxDouble), .int (2 ^ 64 - 1)] = true := by decide +kernel
example : (Sprintf.render [37, 102, 32, 45, 45, 62, 32, 37, 108, 108, 117] [.dbl (.fin SF.maxDouble), .int (2 ^ 64 - 1)]).map List.length
    = some 341 := by decide +kernel

/-- **a safe row has room**: for a `sprintf`/`strcpy`/`strcat` row of the generated table that
`siteSafe` accepts, every rendering of each of its formats (plural forms, translations) with
arguments of the recorded types, after the `pre` characters already in the buffer, fits the
destination with its terminating NUL -/
theorem C15_sprintf_site (s : Sprintf.Site) (hs : s ∈ sprintfSites) (pre c : Nat)
    (hk : s.kind = .fmt (some pre)) (hc : s.cap = some c) (f : List Nat) (hf : f ∈ s.fmts)
    (as : List Sprintf.Arg) (hok : Sprintf.argsOK s.args as = true) :
    ∃ out, Sprintf.render f as = some out ∧ pre + out.length + 1 ≤ c :=
  Sprintf.siteSafe_fmt_sound s pre c hk hc (List.all_eq_true.mp sprintfSites_safe s hs) f hf as hok

/-- **all sites outside the recorded finding are safe** (generated from the current sources).
PARTIAL: the full statement is `(sprintfSites ++ sprintfKnown).all siteSafe`; missing are the rows of
finding C15-printers-without-size (`sprintfKnown`): the public printers that take no buffer size and
the dump, which prints through them into a fixed buffer.  Of the safe rows, those of kind `manual`
are safe by reading (their number is part of the statement), `relay` by the (buffer, size) contract
of the enclosing function, whose calls are rows of their own. -/
theorem C15_sprintf_partial :
    sprintfSites.all Sprintf.siteSafe = true ∧
    (sprintfSites.filter Sprintf.Site.isManual).length ≤ 70 ∧ sprintfSites.length ≥ 400 := by
  refine ⟨sprintfSites_safe, ?_, ?_⟩
  · rw [sprintfSites_manual]; decide
  · rw [sprintfSites_length]; decide

/-- **the recorded finding is real**: among its rows there are calls that hand an unbounded text to a
buffer whose size the callee does not know (witness scenario: corpus/C15-printers-without-size.bvp) -/
theorem C15_sprintf_fails : ¬ ((sprintfSites ++ sprintfKnown).all Sprintf.siteSafe = true) := by
  rw [List.all_append, sprintfSites_safe, Bool.true_and]
  decide +kernel

end Bufr.C15
