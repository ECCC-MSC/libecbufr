import BufrProofs.CodecValues
/-
  C07 — Re-encoding a decoded message is stable: decode–encode is idempotent.

  Tie: props/c07.py runs decode → encode → decode → encode on the implementation and the model for the
  library's own messages and for foreign ones produced by the reference encoder.

  Proved at full strength: every raw pattern of a code table, flag table or scaled numeric element
  decodes to a value that encodes to the same pattern (so decode∘encode is the identity on raw bits —
  the element-level reason why m'' = m'), character octets are reproduced, and for static templates a
  decoded subset re-encodes to exactly the bits it was decoded from (`C07_subset_stable`), hence the
  own-message clause m' = m at Section 4 level.  Not proved: templates with delayed replication or
  2 03, integers wider than 32 bits with a reference, compressed re-encoding of foreign messages
  (whose R0/NBINC legitimately change once): decided by the correspondence and the oracle.
-/
namespace Bufr.C07
open Bufr Bufr.SF Bufr.Scale

/-- code and flag tables: decode then encode is the identity on every raw pattern -/
theorem C07_code_stable (n : Node) (raw : Nat) (ht : n.enc.type = .codetable ∨ n.enc.type = .flagtable)
    (h1 : 1 ≤ n.enc.nbits) (h2 : n.enc.nbits ≤ 63) (hraw : raw ≤ missingIvalue n.enc.nbits) :
    valueBits { n with val := valueOfBits n (freshVal n.enc) raw } = raw := by
  have hm := missingIvalue_le n.enc.nbits h1 (by omega)
  have hfresh : freshVal n.enc = if n.enc.nbits ≤ 31 then Val.i32 (-1) else Val.i64 (-1) := by
    unfold freshVal valtypeOf
    rcases ht with h | h
    all_goals
      simp only [h]
      by_cases h31 : n.enc.nbits ≤ 31 <;> simp [h31]
  have hvo : valueOfBits n (freshVal n.enc) raw =
      (freshVal n.enc).setInt64 (if raw = missingIvalue n.enc.nbits then -1 else (raw : Int)) := by
    unfold valueOfBits
    rcases ht with h | h <;> simp only [h]
  have hvb : ∀ v : Val, valueBits { n with val := v } =
      (if v.getInt64 < 0 then missingIvalue n.enc.nbits else v.getInt64.toNat) := by
    intro v
    unfold valueBits
    rcases ht with h | h <;> simp only [h]
  rw [hvb, hvo, hfresh]
  by_cases hmiss : raw = missingIvalue n.enc.nbits
  · rw [if_pos hmiss]
    split
    · simp [Val.setInt64, Val.getInt64, wrapI64_neg1, wrapI32_id (-1) (by norm_num) (by norm_num), hmiss]
    · simp [Val.setInt64, Val.getInt64, wrapI64_neg1, hmiss]
  · rw [if_neg hmiss]
    have hw64 : wrapI64 (raw : Int) = raw := by
      apply wrapI64_of_range
      · have : (0:Int) ≤ raw := Int.natCast_nonneg raw
        have : (0:Int) ≤ (2:Int)^63 := by positivity
        omega
      · have hp : (2:Nat)^n.enc.nbits.toNat ≤ 2^63 := Nat.pow_le_pow_right (by omega) (by omega)
        have e63 : (2:Int)^63 = ((2^63 : Nat) : Int) := by norm_num
        rw [e63]; exact_mod_cast (by omega : raw < 2^63)
    split
    · next h31 =>
      have hp : (2:Nat)^n.enc.nbits.toNat ≤ 2^31 := Nat.pow_le_pow_right (by omega) (by omega)
      have e31 : (2:Int)^31 = 2147483648 := by norm_num
      have hlt : (raw : Int) < (2:Int)^31 := by rw [e31]; omega
      have hge : -(2:Int)^31 ≤ (raw : Int) := by rw [e31]; omega
      have hnn : ¬ ((raw : Int) < 0) := by omega
      simp [Val.setInt64, Val.getInt64, hw64, wrapI32_id _ hge hlt, hnn]
    · have hnn : ¬ ((raw : Int) < 0) := by omega
      simp [Val.setInt64, Val.getInt64, hw64, hnn]

/-- scaled numerics (widths to 32 bits, the domain of C08): decode then encode is the identity on
every raw pattern, the all-ones pattern included -/
theorem C07_numeric_stable (n : Node) (raw : Nat) (x0 : FP) (ht : n.enc.type = .numeric)
    (hnb : n.enc.nbits ≤ 32) (hv : (sEnc n.enc).Valid) (hraw : raw ≤ 2^(sEnc n.enc).nbits - 1) :
    valueBits { n with val := valueOfBits n (.f64 x0) raw } = raw := by
  have hmI : missingIvalue n.enc.nbits = 2^(sEnc n.enc).nbits - 1 := by
    have h1 := hv.n1
    have : n.enc.nbits = ((sEnc n.enc).nbits : Int) := by
      unfold sEnc at h1 ⊢; simp only at h1 ⊢; omega
    rw [this]
    exact missingIvalue_eq (sEnc n.enc).nbits hv.n1 (by have := hv.n32; omega)
  unfold valueOfBits valueBits
  simp only [ht, hnb, if_true]
  by_cases hmiss : raw = missingIvalue n.enc.nbits
  · rw [if_pos hmiss]
    rw [encode_missing n.desc (sEnc n.enc) hv (.fin maxDouble) (by simp [isMissingDouble])]
    rw [hmiss, hmI]
  · rw [if_neg hmiss]
    have hlt : raw < 2^(sEnc n.enc).nbits - 1 := by omega
    have h1 : (1:ℕ) ≤ 2 ^ (sEnc n.enc).nbits := Nat.one_le_two_pow
    have hi' : ((raw:ℕ):ℤ) < 2 ^ (sEnc n.enc).nbits - 1 := by
      have : ((raw:ℕ):ℤ) < ((2 ^ (sEnc n.enc).nbits - 1 : ℕ) : ℤ) := by exact_mod_cast hlt
      rw [Nat.cast_sub h1] at this; push_cast at this; exact this
    have h0 : (0:ℤ) ≤ (raw:ℤ) := Int.natCast_nonneg raw
    have := cvtDvalToI64_onGrid n.desc (sEnc n.enc) hv _ _ (decode_onGrid (sEnc n.enc) hv raw h0 hi') (by omega)
      (decode_ge_fmin (sEnc n.enc) hv raw h0 hi') (decode_le_fmax (sEnc n.enc) hv raw h0 hi')
    rw [this]
    simp

/-- character data: octets (without NUL) read back and written again are the same octets -/
theorem C07_characters_stable (n : Node) (cs : List Nat) (hlen : cs.length = (n.enc.nbits / 8).toNat)
    (hc : ∀ c ∈ cs, c ≠ 0) (v0 : List Nat) :
    paddedString { n with val := (Val.str v0).setString (some cs) (n.enc.nbits / 8).toNat } = cs := by
  unfold paddedString valueString Val.setString strPad
  simp only
  have htw : ∀ l : List Nat, (∀ c ∈ l, c ≠ 0) → l.takeWhile (fun x => decide (x ≠ 0)) = l := by
    intro l
    induction l with
    | nil => intro _; rfl
    | cons a l ih =>
      intro h
      have ha : a ≠ 0 := h a (by simp)
      have hd : decide (a ≠ 0) = true := decide_eq_true ha
      rw [List.takeWhile_cons, hd]
      simp only [if_true]
      rw [ih (fun c hc' => h c (by simp [hc']))]
  simp only [htw cs hc, ← hlen]
  simp

/-- **one element**: the node the decoder builds from the bits of `m` writes exactly those bits -/
theorem C07_element_stable (n m : Node) (hn : n.val = .none) (hl : SameLayout n m)
    (hns : m.flags.skipped = false) (hk : StableKind m) : nodeBits (readBack n m) = nodeBits m := by
  obtain ⟨henc, hsk, hafw, hval⟩ := hl
  have hfs : (freshVal n.enc).isSome = true := by
    by_cases h : (freshVal n.enc).isSome = true
    · exact h
    · exfalso
      unfold mkvalNode at hval
      have h0 : Val.none.isSome = false := rfl
      rw [hn] at hval
      simp only [h0, Bool.false_eq_true, if_false, h] at hval
      rw [hn] at hval
      exact absurd hval (by simp [h0])
  have hmk := mkvalNode_fresh n hn hfs
  have hmkenc : (mkvalNode n).enc = m.enc := by rw [hmk]; exact henc
  have hmkval : (mkvalNode n).val = freshVal m.enc := by rw [hmk, ← henc]
  have hmksk : (mkvalNode n).flags.skipped = false := by rw [hmk]; simp only; rw [hsk]; exact hns
  -- the node before the value is set
  obtain ⟨n2, hn2⟩ : ∃ n2, afRead n m = n2 := ⟨_, rfl⟩
  obtain ⟨b, hframe⟩ := afRead_frame n m
  have hn2enc : n2.enc = m.enc := by rw [← hn2, hframe]; exact hmkenc
  have hn2val : n2.val = freshVal m.enc := by rw [← hn2, hframe]; exact hmkval
  have hn2sk : n2.flags.skipped = false := by rw [← hn2, hframe]; exact hmksk
  have hn2afw : n2.afW = m.afW := by rw [← hn2, hframe]; exact hafw
  have hn2af : afPart n2 = afPart m := by
    unfold afPart
    rw [hn2enc, hn2afw]
    by_cases ha : m.enc.afNbits > 0 ∧ m.afW > 0
    · rw [if_pos ha, if_pos ha, ← hn2, afRead, if_pos (by rw [hmkenc, hafw]; exact ha)]
      simp only [hafw, bitsMSB_mod]
    · rw [if_neg ha, if_neg ha]
  have hnum : ∀ (ht : m.enc.type = .numeric ∨ m.enc.type = .codetable ∨ m.enc.type = .flagtable),
      readBack n m = { n2 with val := valueOfBits n2 (freshVal m.enc) (valueBits m % 2^m.enc.nbits.toNat) } := by
    intro ht
    rw [readBack_numlike n m (by rw [hmkenc]; exact ht), hn2, hn2val, ← hn2enc]
  -- the shape of the conclusion for the numeric-like kinds
  have hgoal : ∀ (ht : m.enc.type = .numeric ∨ m.enc.type = .codetable ∨ m.enc.type = .flagtable),
      valueBits { n2 with val := valueOfBits n2 (freshVal m.enc) (valueBits m % 2^m.enc.nbits.toNat) } =
        valueBits m % 2^m.enc.nbits.toNat →
      nodeBits (readBack n m) = nodeBits m := by
    intro ht hst
    have ht4 : m.enc.type = .numeric ∨ m.enc.type = .codetable ∨ m.enc.type = .flagtable ∨ m.enc.type = .chngRef :=
      ht.imp_right (Or.imp_right Or.inl)
    rw [hnum ht, nodeBits_numlike m hns ht4]
    rw [nodeBits_numlike _ (by simpa using hn2sk) (by simpa [hn2enc] using ht4)]
    have hst' := hst
    simp only [hn2enc] at hst'
    simp only [hn2enc, hst', bitsMSB_mod]
    congr 1
    rw [← hn2af]
    unfold afPart
    simp [hn2enc]
  rcases hk with ⟨ht, h1, h2⟩ | ⟨ht, hnb, hv, ⟨x0, hf⟩⟩
  · -- code / flag table
    apply hgoal (Or.inr ht)
    have hrawle : valueBits m % 2^m.enc.nbits.toNat ≤ missingIvalue m.enc.nbits := by
      rw [missingIvalue_le m.enc.nbits h1 (by omega)]
      have := Nat.mod_lt (valueBits m) (Nat.two_pow_pos m.enc.nbits.toNat)
      omega
    have hst := C07_code_stable n2 (valueBits m % 2^m.enc.nbits.toNat) (by rw [hn2enc]; exact ht)
      (by rw [hn2enc]; exact h1) (by rw [hn2enc]; exact h2) (by rw [hn2enc]; exact hrawle)
    rw [show freshVal n2.enc = freshVal m.enc from by rw [hn2enc]] at hst
    exact hst
  · -- scaled numeric through the double conversions
    apply hgoal (Or.inl ht)
    have e : (sEnc m.enc).nbits = m.enc.nbits.toNat := by unfold sEnc; rfl
    have hst := C07_numeric_stable n2 (valueBits m % 2^m.enc.nbits.toNat) x0 (by rw [hn2enc]; exact ht)
      (by rw [hn2enc]; exact hnb) (by rw [hn2enc]; exact hv) (by
        rw [hn2enc, e]
        have := Nat.mod_lt (valueBits m) (Nat.two_pow_pos m.enc.nbits.toNat)
        omega)
    rw [← hf] at hst
    exact hst

/-- **one subset, hence the whole uncompressed Section 4**: if every data-bearing position of the
layout is of a stable kind, the decoded subsets re-encode to the bits they were decoded from -/
theorem C07_subset_stable (bsq : List Node) (ss : List (List Node))
    (h : ∀ ms ∈ ss, List.Forall₂ (fun n m => nodeBits (readBack' n m) = nodeBits m) bsq ms) :
    (ss.map (fun ms => List.zipWith readBack' bsq ms)).flatMap (fun s => s.flatMap nodeBits) =
      ss.flatMap (fun s => s.flatMap nodeBits) := by
  induction ss with
  | nil => rfl
  | cons ms ss ih =>
    simp only [List.map_cons, List.flatMap_cons]
    rw [ih (fun m hm => h m (by simp [hm]))]
    congr 1
    have := h ms (by simp)
    clear ih h
    induction this with
    | nil => rfl
    | cons hnm _ ih2 => simp only [List.zipWith_cons_cons, List.flatMap_cons, hnm, ih2]

/-- positions without data contribute no bits before or after -/
theorem C07_skipped_no_bits (n : Node) (h : n.flags.skipped = true) : nodeBits n = [] := by
  unfold nodeBits; simp [h]

/-! ### Non-vacuity -/

def exCode : Node := { desc := 20003, enc := { type := .codetable, scale := 0, ref := 0, nbits := 9, afNbits := 0 } }
example : valueBits { exCode with val := valueOfBits exCode (freshVal exCode.enc) 300 } = 300 := by decide +kernel
example : valueBits { exCode with val := valueOfBits exCode (freshVal exCode.enc) 511 } = 511 := by decide +kernel

def exNum : Node := { desc := 12101, enc := { type := .numeric, scale := 2, ref := -27315, nbits := 16, afNbits := 0 } }
example : (sEnc exNum.enc).Valid := by decide
example : StableKind exNum := .scaled rfl (by decide) (by decide) ⟨_, rfl⟩
example : StableKind exCode := .code (Or.inl rfl) (by decide) (by decide)

end Bufr.C07
