import BufrProofs.FindKeys
/-
  C17 — search returns the first match, honouring value, range and qualifier keys.

  "Searching a subset for a descriptor, or for a sequence of element-descriptor/value keys, from a start
  position returns the smallest position at or after the start at which the keys match consecutively —
  values equal within half the element precision, two-value keys as inclusive ranges, qualifier keys against
  the most recent non-missing qualifier (classes 01-09) in effect for the element — and -1 when there is no
  such position."

  Model: BufrModel/Find.lean (bufr_subset_find_descriptor, bufr_subset_find_values, bufr_compare_value,
  bufr_between_values, bufr_expand_qualifiers, bufr_fetch_rtmd_qualifier, the bufr_set_key_* constructors) — the
  code AFTER the nine C17 fix commits.  Specification: BufrSpec/Find.lean.

  Side conditions of `C17_keys`/`C17_values_spec` (all decidable, see `leafOk`, `cmpOkB`, `rngOkB`): keys name
  element descriptors (no time/location or callback bit); compared values are both text without NUL bytes or both
  numbers; scales within -40…40; reals finite and below 2^200; no 32-bit IEEE element values and no INT64 key
  values; integer elements compared with integer keys have scale ≥ 0; range bounds are not missing; and — the only
  one that is not about well-formedness — where the C compares two reals in double arithmetic
  (`fabs(f1-f2) <= 0.5/pow(10,scale)`), the exact distance is not within one part in 2^40 of the tolerance.
  Inside that band the model still mirrors the C bit for bit (correspondence), the property's exact comparison
  may differ by the rounding of one subtraction.
-/
namespace Bufr.C17
open Bufr Bufr.SF Bufr.Find Bufr.Spec.Find

/-- the start position after `if (startpos < 0) startpos = 0` -/
def startOf (start : Int) : Nat := if start < 0 then 0 else start.toNat

/-- `bufr_subset_find_descriptor` returns the first position at or after the start holding the descriptor, `-1`
when there is none (also for a start beyond the end; a negative start counts as 0) -/
theorem C17_descriptor (ns : List Node) (d start : Int) :
    findDescriptor ns d start = result (firstIndexFrom ns d start) :=
  findDescriptor_eq ns d start

/-- **main theorem**: for every subset `ns`, qualifier lists `quals`, key list `keys` and start, the loop of
`bufr_subset_find_values` returns the least position `p` at or after the start such that its per-position test
`posMatch` holds for the `j`-th element key at `p + j`, for all of them, inside the subset — and `-1` if there is
no such position.  No hypotheses. -/
theorem C17_values (ns : List Node) (quals : List (List Nat)) (keys : List Key) (start : Int) :
    findValues ns quals keys start =
      result (firstMatchGen (posMatch ns quals (splitKeys keys).2.1 (splitKeys keys).2.2)
        (splitKeys keys).2.2.length ns.length (startOf start)) := by
  unfold findValues startOf
  rw [ite_toNat]
  simp only []
  by_cases h0 : ns.length = 0
  · rw [if_pos h0, firstMatchGen_eq, leastFrom_eq_none.mpr fun q _ hq => by omega]
    rfl
  rw [if_neg h0]
  by_cases hge : start ≥ (ns.length : Int)
  · rw [if_pos hge, firstMatchGen_eq, leastFrom_eq_none.mpr fun q hq hlt => by omega]
    rfl
  rw [if_neg hge]
  have hs : start.toNat < ns.length := by omega
  by_cases hk : keys.isEmpty = true
  · -- no key: every position matches, the first is the start
    rw [if_pos hk, List.isEmpty_iff.mp hk]
    show (start.toNat : Int) = result (firstMatchGen (posMatch ns quals [] []) 0 ns.length start.toNat)
    rw [firstMatchGen_eq, leastFrom_hit hs (fullB_iff.mpr ⟨Nat.le_of_lt hs, fun j hj => absurd hj (Nat.not_lt_zero j)⟩)]
    rfl
  · rw [if_neg hk]
    exact findLoop_eq _ _ _ _ hs

/-- a result `p ≥ 0` is a position at or after the start at which all the keys match, and no position between
the start and `p` is one -/
theorem C17_first (ns : List Node) (quals : List (List Nat)) (keys : List Key) (start : Int) (p : Nat)
    (h : findValues ns quals keys start = (p : Int)) :
    startOf start ≤ p ∧ p < ns.length ∧
    FullAt (posMatch ns quals (splitKeys keys).2.1 (splitKeys keys).2.2) (splitKeys keys).2.2.length ns.length p ∧
    ∀ q, startOf start ≤ q → q < p →
      ¬ FullAt (posMatch ns quals (splitKeys keys).2.1 (splitKeys keys).2.2) (splitKeys keys).2.2.length ns.length q :=
  firstMatchGen_eq_some.mp (result_eq_natCast.mp ((C17_values ns quals keys start).symm.trans h))

/-- `-1` is returned exactly when no position at or after the start matches -/
theorem C17_none (ns : List Node) (quals : List (List Nat)) (keys : List Key) (start : Int) :
    findValues ns quals keys start = -1 ↔
      ∀ q, startOf start ≤ q → q < ns.length →
        ¬ FullAt (posMatch ns quals (splitKeys keys).2.1 (splitKeys keys).2.2) (splitKeys keys).2.2.length ns.length q := by
  rw [C17_values, result_eq_neg_one]
  exact firstMatchGen_eq_none

/-- **qualifier tracking**: after `bufr_expand_qualifiers` with tracking on — whatever lists the descriptors had
before — `bufr_fetch_rtmd_qualifier(d)` on the list of the descriptor at `i` returns the qualifier `d` in effect
for it: the most recent descriptor before `i` carrying `d` (a value, not a zero-count placeholder), provided it is
not missing.  (Descriptors flagged class 31/33 are not qualified and keep their list.) -/
theorem C17_qualifiers (ns : List Node) (hs : flagsSane ns = true) (prev : List (List Nat))
    (i : Nat) (n : Node) (hn : ns[i]? = some n) (hfl : (n.flags.class31 || n.flags.class33) = false) (d : Nat) :
    fetchRtmdQualifier ns ((expandQualifiers true ns prev).2.getD i []) d = (inEffect ns i d).bind (ns[·]?) :=
  (expandQualifiers_spec hs prev i n hn).2 hfl d

/-- the qualifier lists of a subset on which `bufr_expand_qualifiers` ran with tracking on and no lists before -/
def freshQuals (ns : List Node) : List (List Nat) := (expandQualifiers true ns (List.replicate ns.length [])).2

/-- on fresh lists the descriptors flagged class 31/33 answer nothing, as the specification has it -/
theorem fetch_fresh (ns : List Node) (hs : flagsSane ns = true) (i : Nat) (hi : i < ns.length) (d : Nat) :
    fetchRtmdQualifier ns ((freshQuals ns).getD i []) d = (inEffect ns i d).bind (ns[·]?) := by
  have hn : ns[i]? = some ns[i] := List.getElem?_eq_getElem hi
  cases hfl : ns[i].flags.class31 || ns[i].flags.class33 with
  | false => exact C17_qualifiers ns hs _ i ns[i] hn hfl d
  | true =>
    unfold freshQuals inEffect
    rw [(expandQualifiers_spec hs (List.replicate ns.length []) i ns[i] hn).1 hfl, hn, List.getD_eq_getElem?_getD,
      List.getElem?_replicate, if_pos hi]
    simp only [hfl, Bool.true_or, if_true]
    rfl

/-- the test the loop makes at position `i` for the `j`-th element key is the property's: same descriptor, value
test of the key, and every qualifier key against the qualifier in effect -/
theorem C17_keys (ns : List Node) (keys : List Key) (hs : flagsSane ns = true) (hl : leafOk ns keys = true)
    (i j : Nat) (hi : i < ns.length) :
    posMatch ns (freshQuals ns) (qualKeys keys) (elemKeys keys) i j = posMatches ns keys i j := by
  have hok : ∀ k ∈ keys, keyOkFor ns k = true := List.all_eq_true.mp hl
  unfold posMatch posMatches
  rw [List.getElem?_eq_getElem hi]
  cases hk : (elemKeys keys)[j]? with
  | none => rfl
  | some k =>
    obtain ⟨hkm, hkq⟩ := List.mem_filter.mp (List.mem_of_getElem? hk)
    have hE := elemKey_eq (hok k hkm) ((Bool.not_eq_true' _).mp hkq) (List.getElem_mem hi)
    have hQ : (qualKeys keys).all (qualKeyOk ns ((freshQuals ns).getD i [])) = (qualKeys keys).all (qualKeyHolds ns i) := by
      rw [Bool.eq_iff_iff, List.all_eq_true, List.all_eq_true]
      exact forall₂_congr fun q hq => by
        obtain ⟨hqm, hqq⟩ := List.mem_filter.mp hq
        rw [qualKey_eq (hok q hqm) hqq i _ (fetch_fresh ns hs i hi)]
    show (ns[i].desc == stripFlags k.desc && _ && elemKeyOk ns[i] k) = (elemKeyMatches ns[i] k && _)
    rw [Bool.and_right_comm, hE, hQ]

/-- **the property**: on a subset whose qualifiers have been tracked, `bufr_subset_find_values` returns the smallest
position at or after the start at which the keys match consecutively in the sense of the specification, `-1` when
there is none -/
theorem C17_values_spec (ns : List Node) (keys : List Key) (start : Int) (hs : flagsSane ns = true)
    (hl : leafOk ns keys = true) :
    findValues ns (freshQuals ns) keys start = result (firstMatch ns keys start) := by
  rw [C17_values, splitKeys_eq keys fun k hk => keyOkFor_shape (List.all_eq_true.mp hl k hk)]
  exact congrArg result (firstMatchGen_congr _ _ _ fun i j hi => C17_keys ns keys hs hl i j hi)

/-! ### the hypotheses are met by concrete, non-trivial data -/

section Examples

def numEnc (scale : Int) (nbits : Int) : Enc := { type := .numeric, scale := scale, ref := 0, nbits := nbits }

def codeEnc (nbits : Int) : Enc := { type := .codetable, scale := 0, ref := 0, nbits := nbits }

/-- 0 08 002 = 5 | 0 12 001 = 272.1 | 0 12 001 = 273.1 | 0 12 001 = 273.1 | 0 08 002 missing | 0 12 001 = 273.1 |
1 01 000 | 0 31 001 = 0 | 0 08 002 (placeholder) | 0 12 001 missing -/
def ex1 : List Node := [
  { desc := 8002, enc := codeEnc 6, val := .i32 5 },
  { desc := 12001, enc := numEnc 1 12, val := .f64 (.fin (2721/10)) },
  { desc := 12001, enc := numEnc 1 12, val := .f64 (.fin (2731/10)) },
  { desc := 12001, enc := numEnc 1 12, val := .f64 (.fin (2731/10)) },
  { desc := 8002, enc := codeEnc 6, val := .i32 (-1) },
  { desc := 12001, enc := numEnc 1 12, val := .f64 (.fin (2731/10)) },
  { desc := 101000 },
  { desc := 31001, flags := { class31 := true }, enc := numEnc 0 8, val := .i32 0 },
  { desc := 8002, flags := { skipped := true, ignored := true }, enc := codeEnc 6, val := .i32 (-1) },
  { desc := 12001, enc := numEnc 1 12, val := .f64 (.fin maxDouble) } ]

-- find_descriptor: first occurrence at or after the start, -1 past the last one, negative start = 0
example : findDescriptor ex1 12001 2 = 2 ∧ findDescriptor ex1 12001 6 = 9 ∧ findDescriptor ex1 8002 9 = -1 ∧
    findDescriptor ex1 8002 (-7) = 0 ∧ findDescriptor ex1 12001 10 = -1 := by decide +kernel

-- the restart: the keys (12001, 12001 = 273.1, 12001 = 273.1) match at 1 (272.1 under the valueless key, then 273.1
-- at 2 and 3); asking for 273.1 three times matches nowhere (the run 2, 3 is followed by 0 08 002); two times: at 2
def k273 : Key := setKeyFlt32 12001 [.fin (fl 24 (2731/10))]

example : findValues ex1 (freshQuals ex1) [setKeyInt32 12001 [], k273, k273] 0 = 1 ∧
    findValues ex1 (freshQuals ex1) [k273, k273, k273] 0 = -1 ∧
    findValues ex1 (freshQuals ex1) [k273, k273] 0 = 2 ∧
    findValues ex1 (freshQuals ex1) [k273, k273] 3 = -1 ∧
    findValues ex1 (freshQuals ex1) [k273] 3 = 3 := by decide +kernel

-- qualifier keys: 0 08 002 = 5 is in effect at 1-3, cancelled (missing) at 5, and the placeholder at 8 changes nothing
example : freshQuals ex1 = [[], [0], [0], [0], [0], [], [], [], [], []] := by decide +kernel
example : findValues ex1 (freshQuals ex1) [setKeyQualifierInt32 8002 5, k273] 0 = 2 ∧
    findValues ex1 (freshQuals ex1) [setKeyQualifierInt32 8002 5, k273] 4 = -1 ∧
    findValues ex1 (freshQuals ex1) [setKeyQualifier 8002 none, setKeyInt32 12001 []] 4 = -1 ∧
    findValues ex1 (freshQuals ex1) [setKeyQualifier 8002 none, setKeyInt32 12001 []] 0 = 1 := by decide +kernel

-- ranges are inclusive, missing equals missing only
example : findValues ex1 (freshQuals ex1) [setKeyInt32 12001 [273, 274]] 0 = 2 ∧
    findValues ex1 (freshQuals ex1) [{ desc := 12001, vals := [.f64 (.fin (2731/10)), .f64 (.fin 280)] }] 0 = 2 ∧
    findValues ex1 (freshQuals ex1) [{ desc := 12001, vals := [.f64 (.fin 270), .f64 (.fin (2721/10))] }] 0 = 1 ∧
    findValues ex1 (freshQuals ex1) [setKeyInt32 12001 [-1]] 0 = 9 ∧
    findValues ex1 (freshQuals ex1) [setKeyInt32 8002 [-5, 5]] 1 = -1 := by decide +kernel

-- the side conditions of `C17_values_spec` hold for these keys …
example : flagsSane ex1 = true ∧
    leafOk ex1 [setKeyQualifierInt32 8002 5, setKeyInt32 12001 [], k273, setKeyInt32 12001 [273, 274],
                setKeyInt32 12001 [-1], setKeyQualifier 8002 none] = true := by decide +kernel

-- … and the specification gives the same answers
example : firstMatch ex1 [setKeyQualifierInt32 8002 5, k273] 0 = some 2 ∧
    firstMatch ex1 [setKeyInt32 12001 [], k273, k273] 0 = some 1 ∧
    firstMatch ex1 [k273, k273, k273] 0 = none ∧
    firstMatch ex1 [setKeyInt32 12001 [-1]] (-3) = some 9 := by decide +kernel

-- the qualifier in effect: 0 08 002 at position 0 for 1…3, none from 5 on
example : inEffect ex1 3 8002 = some 0 ∧ inEffect ex1 5 8002 = none ∧ inEffect ex1 9 8002 = none ∧
    inEffect ex1 7 8002 = none := by decide +kernel

-- text: equal up to padding, not by prefix
def ex2 : List Node := [
  { desc := 1015, enc := { type := .ccitt, nbits := 32 }, val := .str [65, 66, 67, 32] },
  { desc := 1015, enc := { type := .ccitt, nbits := 32 }, val := .str [65, 66, 32, 32] } ]

example : findValues ex2 (freshQuals ex2) [setKeyString 1015 [[65, 66]]] 0 = 1 ∧
    findValues ex2 (freshQuals ex2) [setKeyString 1015 [[65, 66, 67, 32, 32, 32]]] 0 = 0 ∧
    findValues ex2 (freshQuals ex2) [setKeyString 1015 [[]]] 0 = -1 ∧
    leafOk ex2 [setKeyString 1015 [[65, 66]]] = true := by decide +kernel

end Examples

end Bufr.C17
