import BufrProofs.CodecDynamic
import BufrModel.Merge
/-
  C14 — Subset ranges: partial decode equals a slice; merged subsets stay equal.

  The property theorems, and the lemmas about `mergeCore` the merge theorems rest on.  Model: BufrModel/Decode.lean
  (`Range`, `getNumericCompressed`, `decodeUncompressed`), tied to bufr_decode_message_subsets by the
  `ds.decode … from to` streams; `bufr_merge_dataset` is `mergeDataset` of BufrModel/Merge.lean, tied by `dd.merge`.
-/
namespace Bufr.C14
open Bufr

/-- **compressed column, any slice**: for every column the encoder writes and every request
`1 ≤ from ≤ to ≤ n`, the reader returns exactly the raw values of subsets `from..to` (`g.slice`),
skipping `from − 1` increments before and `n − to` after, so that the next column is read from the
right place -/
theorem C14_compressed_column (w : W) (hI : WInv w) (n0 : Node) (rest : List Node)
    (h1 : 1 ≤ n0.enc.nbits) (h2 : n0.enc.nbits ≤ 64)
    (hv : ∀ n ∈ n0 :: rest, value2bits n ≤ missingIvalue n0.enc.nbits)
    (hspread : n0.enc.nbits = 64 → ∀ a ∈ n0 :: rest, ∀ b ∈ n0 :: rest,
      value2bits a ≠ missingIvalue n0.enc.nbits → value2bits b ≠ missingIvalue n0.enc.nbits →
      value2bits a - value2bits b < 2^63 - 1)
    (r : R) (hIr : RInv r) (tail : List Bool)
    (hb : w.bits ++ r.bits = (putNumericCompressed w (n0 :: rest)).bits ++ tail)
    (cb : Node) (col : List Node) (hnb : cb.enc.nbits = n0.enc.nbits)
    (g : Range) (hg : 1 ≤ g.from_ ∧ g.from_ ≤ g.to ∧ g.to ≤ g.nsub) (hn : g.nsub = (n0 :: rest).length)
    (hcol : (cb :: col).length = g.count) :
    ∃ r', getNumericCompressed r (cb :: col) g =
        some (r', zipWithNodes setBitsValue (cb :: col)
                    ((((n0 :: rest).map value2bits).drop (g.from_ - 1).toNat).take (g.to - g.from_ + 1).toNat)) ∧
      r'.bits = tail ∧ RInv r' := by
  obtain ⟨r', e, hb', hI'⟩ := numeric_column_roundtrip w hI n0 rest h1 h2 hv hspread r hIr tail hb cb col hnb g
    (Or.inr hg) hn hcol
  refine ⟨r', ?_, hb', hI'⟩
  rw [e]
  unfold Range.slice Range.count
  rw [if_pos (by omega), if_pos (by omega)]

/-- **IEEE column (2 09 YYY), constant form, any request**: a column whose value is written once (`NBINC = 0`)
gives that value to every subset of the request and the reader stands right behind NBINC — nothing is skipped.
(The library skipped `nbits·(from−1)` and `nbits·(n−to)` bits here when a range was asked for: repaired.) -/
theorem C14_ieee_column_const (r : R) (cb : Node) (col : List Node) (g : Range) (v0 : Nat)
    (rest : List Bool) (hI : RInv r) (hnb : 1 ≤ cb.enc.nbits ∧ cb.enc.nbits ≤ 64)
    (hb : r.bits = bitsMSB cb.enc.nbits.toNat v0 ++ bitsMSB 6 0 ++ rest) :
    ∃ r', getIeeeCompressed r (cb :: col) g =
        some (r', (cb :: col).map (fun n => ieeeSetv n (v0 % 2^cb.enc.nbits.toNat))) ∧
      r'.bits = rest ∧ RInv r' :=
  getIeeeCompressed_const r cb col g v0 rest hI hnb hb

/-- **IEEE column, listed form, any slice, any encoder**: for *every* bit string of the listed form (any first
value, any non-zero NBINC) a request `from..to` returns exactly the values of subsets `from..to` and leaves the
reader behind the whole column -/
theorem C14_ieee_column_listed (r : R) (cb : Node) (col : List Node) (g : Range) (v0 k : Nat)
    (vals : List Nat) (rest : List Bool) (hI : RInv r) (hnb : 1 ≤ cb.enc.nbits ∧ cb.enc.nbits ≤ 64)
    (hk0 : 0 < k) (hk63 : k < 64) (hg : g.OK) (hlen : vals.length = g.nsub)
    (hb : r.bits = bitsMSB cb.enc.nbits.toNat v0 ++ bitsMSB 6 k ++ vals.flatMap (bitsMSB cb.enc.nbits.toNat) ++ rest) :
    ∃ r', getIeeeCompressed r (cb :: col) g =
        some (r', zipWithNodes ieeeSetv (cb :: col) ((g.slice vals).map (· % 2^cb.enc.nbits.toNat))) ∧
      r'.bits = rest ∧ RInv r' :=
  getIeeeCompressed_listed r cb col g v0 k vals rest hI hnb hk0 hk63 hg hlen hb

/-- the hypotheses are met: three 32-bit values listed (NBINC = 32), subsets 2..3 asked for -/
example :
    let r := R.ofBytes [0x40, 0x49, 0x0f, 0xdb, 0x81, 0x01, 0x24, 0x3f, 0x6c, 0xfe, 0x00, 0x00, 0x03, 0x0b, 0xdb, 0xa5, 0xe4]
    let cb : Node := { desc := 12101, enc := { type := .ieee, nbits := 32 } }
    (getIeeeCompressed r [cb, cb] (⟨3, 2, 3⟩ : Range)).map (fun p => p.2.map (·.val)) =
      some [(ieeeSetv cb 0x3f800000).val, (ieeeSetv cb 0xc2f6e979).val] := by decide +kernel

/-- a request `from..to` keeps exactly `to − from + 1` subsets -/
theorem C14_slice_length {α} (g : Range) (hg : 1 ≤ g.from_ ∧ g.from_ ≤ g.to ∧ g.to ≤ g.nsub) (l : List α)
    (hl : l.length = g.nsub) : (g.slice l).length = (g.to - g.from_ + 1).toNat := by
  rw [Range.slice_length g (Or.inr hg) l hl]
  unfold Range.count; rw [if_pos (by omega)]

/-- **uncompressed, fixed length** (static templates): starting the subset loop at the bits of
subset `a` and running it for `b − a + 1` subsets returns exactly those subsets — the bits of the other
subsets are never looked at -/
theorem C14_fixed_subsets (T : Tables) (edition : Nat) (enforce : Enforce) (fuel s4max : Nat)
    (bsq : List Node) (nbitsSeq : Int) (from_ to_ : Int)
    (hfuel : bsq.length < fuel) (hok : staticOK T edition { enforce := enforce } bsq = true)
    (kept : List (List Node)) (st : DecSt) (rest : List Bool)
    (hp : ∀ ms ∈ kept, List.Forall₂ Pair bsq ms) (hI : RInv st.r)
    (hb : st.r.bits = kept.flatMap (fun ms => ms.flatMap nodeBits) ++ rest) :
    ∃ st', decodeUncompressed T edition enforce fuel s4max bsq nbitsSeq true from_ to_ kept.length 0 st [] =
        .ok (st', kept.map (fun ms => mkvalAll (List.zipWith readBack' bsq ms))) ∧
      st'.invalid = st.invalid ∧ st'.r.bits = rest := by
  obtain ⟨st', e, hinv, hb', _⟩ := decodeUncompressed_static T edition enforce fuel s4max bsq nbitsSeq true from_ to_
    (Or.inl rfl) hfuel hok kept 0 st [] rest hp hI hb
  exact ⟨st', by simpa using e, hinv, hb'⟩

/-- datasets of a different template are refused, and the destination is left as it was -/
theorem C14_merge_refuses (blank : List Node) (dest src : List (List Node)) (dp sp : Nat) (nb : Int) :
    mergeDataset false blank dest src dp sp nb = (-1, dest) := by
  unfold mergeDataset; simp

theorem mergeCore_step (dest1 src : List (List Node)) (dc dp sp k : Nat) :
    mergeCore dest1 src dc dp sp (k + 1) =
      (if dp + k < dc then (mergeCore dest1 src dc dp sp k).set (dp + k) ((src[sp + k]?).getD [])
       else mergeCore dest1 src dc dp sp k ++ [(src[sp + k]?).getD []]) := by
  unfold mergeCore
  rw [List.range_succ, List.foldl_append]; rfl

theorem mergeCore_length (src : List (List Node)) (sp : Nat) (dest1 : List (List Node)) (dp : Nat)
    (h : dp < dest1.length) : ∀ (nb : Nat),
    (mergeCore dest1 src dest1.length dp sp nb).length = max dest1.length (dp + nb) := by
  intro nb
  induction nb with
  | zero =>
    simp [mergeCore]
    omega
  | succ k ih =>
    rw [mergeCore_step]
    split
    · rw [List.length_set, ih]
      omega
    · rw [List.length_append, ih, List.length_singleton]
      omega

theorem mergeCore_places (src : List (List Node)) (sp : Nat) (dest1 : List (List Node)) (dp : Nat)
    (h : dp < dest1.length) : ∀ (nb : Nat), sp + nb ≤ src.length →
    (∀ i, i < nb → (mergeCore dest1 src dest1.length dp sp nb)[dp + i]? = src[sp + i]?) ∧
    (∀ j, j < dp → (mergeCore dest1 src dest1.length dp sp nb)[j]? = dest1[j]?) ∧
    (∀ j, dp + nb ≤ j → (mergeCore dest1 src dest1.length dp sp nb)[j]? = dest1[j]?) := by
  intro nb
  induction nb with
  | zero => intro _; simp [mergeCore]
  | succ k ih =>
    intro hs
    obtain ⟨a, b, c⟩ := ih (by omega)
    have hl := mergeCore_length src sp dest1 dp h k
    have hsrc : (src[sp + k]?).getD [] = src[sp + k]'(by omega) := by
      rw [List.getElem?_eq_getElem (by omega)]; rfl
    rw [mergeCore_step]
    split
    · next hlt =>
      have hlt' : dp + k < (mergeCore dest1 src dest1.length dp sp k).length := by rw [hl]; omega
      refine ⟨?_, ?_, ?_⟩
      · intro i hi
        by_cases hik : i = k
        · subst hik
          rw [List.getElem?_set_self hlt', hsrc, List.getElem?_eq_getElem (by omega)]
        · rw [List.getElem?_set_ne (by omega)]; exact a i (by omega)
      · intro j hj; rw [List.getElem?_set_ne (by omega)]; exact b j hj
      · intro j hj; rw [List.getElem?_set_ne (by omega)]; exact c j (by omega)
    · next hge =>
      have hlen : (mergeCore dest1 src dest1.length dp sp k).length = dp + k := by omega
      refine ⟨?_, ?_, ?_⟩
      · intro i hi
        by_cases hik : i = k
        · subst hik
          rw [List.getElem?_append_right (by omega), hlen]
          simp [List.getElem?_eq_getElem (show sp + i < src.length by omega)]
        · rw [List.getElem?_append_left (by omega)]; exact a i (by omega)
      · intro j hj; rw [List.getElem?_append_left (by omega)]; exact b j hj
      · intro j hj
        rw [List.getElem?_eq_none (by simp; omega)]
        rw [List.getElem?_eq_none (by omega)]

/-- the number of subsets `bufr_merge_dataset` copies: what was asked for, but no more than the
source holds from `sp` on -/
def mergeCount (srcLen sp nb : Nat) : Nat := min nb (srcLen - sp)

/-- the count `bufr_merge_dataset` arrives at by its two clamps is `mergeCount` (when `sp` lies in the source) -/
theorem mergeDataset_count (srcLen sp nb : Nat) :
    (let nb0 : Int := if (nb : Int) > (srcLen : Int) then (srcLen : Int) else (nb : Int)
     if sp > 0 ∧ nb0 > (srcLen : Int) - sp then (srcLen : Int) - sp else nb0) =
    (if sp ≤ srcLen then ((mergeCount srcLen sp nb : Nat) : Int) else (srcLen : Int) - sp) := by
  unfold mergeCount
  simp only []
  split <;> split <;> split <;> omega

/-- **equal subsets at the requested positions, for every (destination position, source position,
count) triple** with the source position inside the source.  For datasets of the same template, at
any destination position — inside, at the end or beyond the end of the destination — and for any
count, also one that runs past the end of the source: `bufr_merge_dataset` copies
`m = min nb (|src| − sp)` subsets and returns `m`, destination position `dp + i` holds source
subset `sp + i` for `i < m`, and every destination subset outside `dp … dp+m−1` is what it was.
(Before the repair recorded as C14-merge-count-past-source the library copied `nb` "subsets", the
ones past the end of the source as subsets without descriptors, over valid destination subsets.) -/
theorem C14_merge_clamps (blank : List Node) (dest src : List (List Node)) (dp sp nb : Nat)
    (hs : sp ≤ src.length) :
    (mergeDataset true blank dest src dp sp nb).1 = mergeCount src.length sp nb ∧
    (∀ i, i < mergeCount src.length sp nb → (mergeDataset true blank dest src dp sp nb).2[dp + i]? = src[sp + i]?) ∧
    (∀ j, j < dest.length → (j < dp ∨ dp + mergeCount src.length sp nb ≤ j) →
      (mergeDataset true blank dest src dp sp nb).2[j]? = dest[j]?) := by
  unfold mergeDataset
  simp only [Bool.not_true, Bool.false_eq_true, if_false]
  have h1 := mergeDataset_count src.length sp nb
  simp only [] at h1
  rw [h1, if_pos hs]
  generalize hm : mergeCount src.length sp nb = m
  have hmle : sp + m ≤ src.length := by rw [← hm]; unfold mergeCount; omega
  have hneg : ¬ ((m : Int) < 0) := by omega
  simp only [hneg, if_false, Int.toNat_natCast, true_and]
  generalize hd1 : (if dp ≥ dest.length then dest ++ List.replicate (dp - dest.length + 1) blank else dest) = dest1
  have hdp : dp < dest1.length := by
    rw [← hd1]; split
    · simp; omega
    · omega
  have hpre : ∀ j, j < dest.length → dest1[j]? = dest[j]? := by
    intro j hj; rw [← hd1]; split
    · rw [List.getElem?_append_left hj]
    · rfl
  obtain ⟨a, b, c⟩ := mergeCore_places src sp dest1 dp hdp m hmle
  refine ⟨a, ?_⟩
  intro j hj hor
  rcases hor with h | h
  · rw [b j h, hpre j hj]
  · rw [c j h, hpre j hj]

/-- the request inside the source (`sp + nb ≤ |src|`): exactly `nb` subsets -/
theorem C14_merge_places (blank : List Node) (dest src : List (List Node)) (dp sp nb : Nat)
    (hs : sp + nb ≤ src.length) :
    (mergeDataset true blank dest src dp sp nb).1 = nb ∧
    (∀ i, i < nb → (mergeDataset true blank dest src dp sp nb).2[dp + i]? = src[sp + i]?) ∧
    (∀ j, j < dest.length → (j < dp ∨ dp + nb ≤ j) → (mergeDataset true blank dest src dp sp nb).2[j]? = dest[j]?) := by
  have hm : mergeCount src.length sp nb = nb := by unfold mergeCount; omega
  have := C14_merge_clamps blank dest src dp sp nb (by omega)
  rw [hm] at this
  exact this

/-! ### Non-vacuity -/
example : (⟨5, 2, 4⟩ : Range).slice [10, 20, 30, 40, 50] = [20, 30, 40] := by decide
example : (mergeDataset true [] [[], [], []] [[{ desc := 1 }], [{ desc := 2 }]] 2 0 2).2 = [[], [], [{ desc := 1 }], [{ desc := 2 }]] := by
  decide
-- a count that runs past the end of the source: one subset is copied, the destination's others stay
example : mergeDataset true [] [[{ desc := 7 }], [{ desc := 8 }], [{ desc := 9 }]] [[{ desc := 1 }], [{ desc := 2 }]] 0 1 2 =
    (1, [[{ desc := 2 }], [{ desc := 8 }], [{ desc := 9 }]]) := by decide

end Bufr.C14
