import BufrProofs.Own
import BufrProofs.WriterFields
/-
  C16 — Valid workloads are memory-clean: no overflow, use-after-free or leak.   (PARTIAL by nature)

  What is proved here is about the *model* `BufrModel/Own.lean`: an ownership heap whose transitions are the
  object-level API operations (tables created, loaded, merged; templates created, copied, loaded; datasets and
  subsets created, expanded, given values, merged, reloaded; messages encoded, read; datasets decoded; tables
  extracted; lists of tables; every free), and about the bit-level encoder of `BufrModel/Codec.lean`.

  * `C16_inv`, `C16_no_dangling`: every operation that is valid in a well-formed heap leaves it well-formed —
    each live object has exactly one live owner or is a root the application holds, and every non-owning pointer
    targets a live object — so no valid operation releases something a live object still points into.
  * `C16_no_leak`: after any valid workload, releasing the roots the application still holds (newest first)
    always succeeds and leaves nothing allocated, of any kind.
  * `C16_counts`: the number of live objects of each kind moves by exactly what the operation's plan allocates
    and releases; this is the quantity compared with the library's LIBECBUFR_VERIF counters at quiescent points.
  * `C16_growth`: the Section 4 encoder only ever calls `bufr_putbits`; with fields of at most 64 bits every
    write lands inside the allocation and the buffer is grown before the next one, whatever its initial size
    (compressed data larger than the uncompressed estimate included).

  What is *not* expressible in the model and is observed instead (ASan/LSan, hook counters, the harness's
  reachability walk): the C allocator itself, heap bytes, and that the library's functions perform exactly the
  allocations and releases of the plans (tied by the `own.*` correspondence, not proved).
-/
namespace Bufr.C16
open Bufr Bufr.Own

/-- **Invariant.** A valid operation keeps the heap well-formed: ids are unique, every live node has one live,
older owner of the same root or is a root held through a handle, every root has a handle, every reference points
to a live node of the same or an older root. -/
theorem C16_inv (s s' : State) (op : Op) (hw : WF s) (hv : step s op = some s') : WF s' :=
  step_wf s s' op hw hv

/-- the same for a whole workload started from nothing -/
theorem C16_inv_run (ops : List Op) (s : State) (h : run {} ops = some s) : WF s :=
  run_wf ops {} s wf_empty h

/-- **No dangling pointer.** Whatever a valid operation releases (`x` was live before and is not after) is not
referenced by any object that is still live: a use-after-free cannot be expressed by a valid workload. -/
theorem C16_no_dangling (s s' : State) (op : Op) (hw : WF s) (hv : step s op = some s') :
    ∀ x, (∃ n ∈ s.nodes, n.id = x) → (∀ n ∈ s'.nodes, n.id ≠ x) → ∀ m ∈ s'.nodes, ∀ r ∈ m.refs, r.2 ≠ x := by
  intro x _ hgone m hm r hr hrx
  obtain ⟨t, ht, h1, _⟩ := (step_wf s s' op hw hv).refs m hm r hr
  exact hgone t ht (by rw [h1, hrx])

/-- and owners: every live object's owner is live after the operation (nothing is released from under it) -/
theorem C16_owner_live (s s' : State) (op : Op) (hw : WF s) (hv : step s op = some s') :
    ∀ n ∈ s'.nodes, ∀ o, n.owner = some o → ∃ p ∈ s'.nodes, p.id = o := by
  intro n hn o ho
  have := (step_wf s s' op hw hv).owners n hn
  simp only [ho] at this
  obtain ⟨_, p, hp, h1, _⟩ := this
  exact ⟨p, hp, h1⟩

/-- **No leak.** After every valid workload, freeing the roots the application still holds — newest first —
is itself valid at every step and leaves no live object of any kind. -/
theorem C16_no_leak (ops : List Op) (s : State) (h : run {} ops = some s) :
    ∃ s', freeAll s = some s' ∧ s'.nodes = [] ∧ s'.handles = [] ∧ ∀ k, s'.count k = 0 := by
  obtain ⟨s', h1, h2, h3⟩ := freeAll_spec s (run_wf ops {} s wf_empty h)
  exact ⟨s', h1, h2, h3, fun k => count_of_nodes_nil s' h2 k⟩

/-- **Counts.** The live count of every kind after an operation is the count before, plus what the primitives of
its plan allocate, minus what they release (`planAllocated`/`planFreed` sum `Prim.allocated`/`Prim.freed` along
the execution: a node counts 1 for its own kind plus its payload). -/
theorem C16_counts (s s' : State) (op : Op) (ps : List Prim) (k : Kind)
    (hp : plan s op = some ps) (hv : step s op = some s') :
    s'.count k + planFreed k s ps = s.count k + planAllocated k s ps := by
  unfold step at hv
  rw [hp] at hv
  exact execAll_count k ps s s' hv

/-- per primitive -/
theorem C16_counts_prim (s s' : State) (p : Prim) (k : Kind) (h : p.exec s = some s') :
    s'.count k + p.freed s k = s.count k + p.allocated s k := exec_count s s' p k h

/-- **Growth.** Section 4 of `bufr_encode_message` is a sequence of `bufr_putbits` calls on the buffer first
allocated from the uncompressed size estimate; when no field is wider than 64 bits, then from a buffer of *any*
initial size every write lands inside the current allocation and the capacity invariant holds at the end. -/
theorem C16_growth (ss : List (List Node)) (dataFlag : Nat) (xCompress : Int) :
    ∃ c : Bool,
      (encodeData ss dataFlag xCompress).2 = ((W.new 0).alloc (s4Estimate ss)).putFields (encodeFields ss c) ∧
      ((∀ f ∈ encodeFields ss c, f.2 ≤ 64) → ∀ est : Nat,
        SafeWrites ((W.new 0).alloc est) (encodeFields ss c) ∧
        CapInv (((W.new 0).alloc est).putFields (encodeFields ss c))) := by
  obtain ⟨c, hc⟩ := encodeData_fields ss dataFlag xCompress
  refine ⟨c, hc, ?_⟩
  intro hfs est
  have hI : WInv ((W.new 0).alloc est) := alloc_inv _ _ (WInv_new 0)
  have hC : CapInv ((W.new 0).alloc est) := by
    unfold CapInv
    rw [alloc_filled]
    simp [W.new, W.filled]
  exact putFields_safe _ hfs _ hI hC

/-- for uncompressed data the hypothesis of `C16_growth` follows from the elements: widths and associated
fields of at most 64 bits -/
theorem C16_growth_elements (ss : List (List Node))
    (h : ∀ s ∈ ss, ∀ n ∈ s, n.enc.nbits ≤ 64 ∧ n.afW ≤ 64) : ∀ f ∈ encodeFields ss false, f.2 ≤ 64 := by
  intro f hf
  unfold encodeFields at hf
  simp only [Bool.false_eq_true, if_false, List.mem_flatMap] at hf
  obtain ⟨s, hs, n, hn, hfn⟩ := hf
  exact fieldsDesc_le n (h s hs n hn).1 (h s hs n hn).2 f hfn

/-! ## Non-vacuity -/

/-- a workload: tables loaded, a template and a dataset made from them, two subsets, an encoded message, a decoded
dataset, a merge, then frees in an allowed order (dependants before what they point into) -/
def wl : List Op :=
  [ .tnew 0, .tload (.slot 0) 0 true 5, .tload (.slot 0) 1 true 2, .tload (.slot 0) 2 true 1,
    .mnew 0 (.slot 0) { d := 3, v := 1, rt := 2, arr := 3 } 1 0 true [],
    .dnew 0 0 1 0 true,
    .dsub 0 { d := 4, v := 3, rt := 3, dpbm := 1, arr := 1 },
    .dsub 0 { d := 4, v := 3, rt := 3, dpbm := 1, arr := 1 },
    .dset 0 1 { d := 7, v := 6, rt := 6, dpbm := 1, arr := 1 },
    .gnew 0,
    .dec 1 (.slot 0) { d := 3, v := 1, rt := 2, arr := 3 } 1 0 true [{ d := 4, v := 3, rt := 3, arr := 1 }] [],
    .dmerge 0 3 1 0 1 2 [{ d := 4, v := 3, rt := 3, dpbm := 1, arr := 1 }],
    .mfree 0, .dfree 1 ]

example : (run {} wl).isSome = true := by decide
/-- what is live after it, per kind in the order of the hook's counters: the tables handle (3 arrays, 6 B and 2 D
entries), the dataset with its own template, tables copy, four subsets, and the message -/
example : (run {} wl).map (·.counts) = some [2, 7, 2, 1, 1, 4, 22, 16, 0, 0, 1, 0, 0, 0, 15, 17, 0, 3] := by decide
example : ((run {} wl).bind freeAll).map (·.counts) = some (Kind.all.map fun _ => 0) := by decide
/-- the tables cannot be released while the dataset made from them is alive: the operation is not valid -/
example : ((run {} wl).bind fun s => step s (.tfree 0)) = none := by decide
/-- but after the dataset they can -/
example : ((run {} wl).bind fun s => run s [.dfree 0, .gfree 0, .tfree 0]).map (·.nodes.length) = some 0 := by decide
/-- loading a master table into a handle that only references it drops the reference instead of writing into the
owner's table: the owner can then be released first -/
example : (run {} [.tnew 0, .tload (.slot 0) 0 true 5, .tnew 1, .tmerge 1 (.slot 0) 0 0 [], .tload (.slot 1) 0 true 7,
                   .tfree 0]).map (·.counts) = some [1, 7, 0, 0, 0, 0, 0, 0, 0, 0, 0, 0, 0, 0, 3, 0, 0, 0] := by decide
/-- a merge that would release a master table someone else points into is not valid -/
example : run {} [.tnew 0, .tload (.slot 0) 0 true 5, .tnew 1, .tmerge 1 (.slot 0) 0 0 [],
                  .tnew 2, .tload (.slot 2) 0 true 9, .tmerge 0 (.slot 2) 0 0 []] = none := by decide

/-- growth: two subsets of one 2-character element that differ; compressed, the data (R0, 6-bit width, two
increments = 54 bits) outgrow the 4 octets estimated from the uncompressed size -/
def strNode (a b : Nat) : Node :=
  { desc := 1015, enc := { type := .ccitt, nbits := 16 }, val := .str [a, b] }

example : ∀ f ∈ encodeFields [[strNode 65 66], [strNode 67 68]] true, f.2 ≤ 64 := by decide
example : s4Estimate [[strNode 65 66], [strNode 67 68]] = 4 := by decide
example : (encodeFields [[strNode 65 66], [strNode 67 68]] true).foldl (fun a f => a + f.2) 0 = 54 := by decide

end Bufr.C16
