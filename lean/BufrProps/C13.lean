import BufrProofs.DumpNode
/-
  C13 — a dataset written as text and loaded back encodes to the identical message.

  What is proved here, for the model of `bufr_fdump_dataset` / `bufr_read_dataset_dump` /
  `bufr_genmsgs_from_dump` in BufrModel/Dump.lean (the PATCHED library: see known_findings.json,
  property C13):

  * value level (full strength): the decimal text of every decoded value reads back as the very
    same double and re-encodes to the raw value it came from (`C13_value_text`,
    `C13_value_roundtrip`, `C13_value_node`), integers (`C13_int_roundtrip`), flag tables in
    binary (`C13_flag_roundtrip`), quoted strings (`C13_string_roundtrip`), associated fields
    (`C13_af_roundtrip`), missing values (`C13_missing_roundtrip`);
  * line level (full strength): the line printed for any node, whatever meta text stands between
    descriptor and value, parses to the node's record (`C13_line_roundtrip`);
  * header (full strength): the header block reads back (`C13_header_roundtrip`);
  * dataset level (full strength, text): reading the text of a dataset IS the loader's walk over the
    records of its nodes (`C13_text_roundtrip`); several datasets printed one after the other are
    read one by one, in order (`C13_concat`);
  * `C13_roundtrip_partial`, `C13_concat_partial`: the loaded dataset encodes to the identical
    message — under the hypothesis `Reloads` that the walk, a function of nodes and records with no
    text in it, reproduces a dataset with the same encoding.  What is missing for full strength: a
    proof that every dataset built by `createDatasubset`/`expandDatasubset`/the setters or by
    `decodeData` satisfies `Reloads` (template expansion driven by the dataset's own replication
    factors reproduces its descriptors and encodings).  `Reloads` is decidable; it is evaluated for
    the examples below and, in effect, on every dataset of every run of the correspondence.
-/
namespace Bufr.C13
open Bufr Bufr.SF Bufr.Printf Bufr.Dump Bufr.Scale

/-- **the text of a decoded value reads back as the same double** — `%.{scale}f`, and `%.1f` for
a negative scale, against `strtod`; every encoding of the C08 domain (width 1..32, |reference| ≤
2^30, scale −16..15), every raw value below all-ones -/
theorem C13_value_text (e : Scale.Enc) (hv : e.Valid) (i : ℕ) (hi : i < 2 ^ e.nbits - 1) :
    strtod (printScaled e.scale (cvtI64ToDval e i)) = .fin (cvtI64ToDval e i) := by
  exact strtod_printScaled e hv i (Int.natCast_nonneg i) (natCast_lt_allOnes hi)

example : strtod (printScaled 2 (cvtI64ToDval ⟨2, -27315, 16⟩ 30000)) = .fin (cvtI64ToDval ⟨2, -27315, 16⟩ 30000) := by
  decide +kernel
-- the range end of 0 02 067 (scale −5, 15 bits): "3276600000.0"
example : printScaled (-5) (cvtI64ToDval ⟨-5, 0, 15⟩ 32766) = B "3276600000.0" := by decide +kernel
example : (⟨-5, 0, 15⟩ : Scale.Enc).Valid := by decide
example : printScaled 2 (cvtI64ToDval ⟨2, -27315, 16⟩ 30000) = B "26.85" := by decide +kernel

/-- **key lemma**: for every encoding in range and every raw value `i`, parsing the printed text of
`cvtI64ToDval e i` and converting back gives raw `i`, and the value passes the range test of
`bufr_descriptor_set_dvalue` — for both settings of the zero-trimming switch -/
theorem C13_value_roundtrip (trim : Bool) (code : Desc) (h31 : Desc.x code ≠ 31) (e : Scale.Enc) (hv : e.Valid)
    (i : ℕ) (hi : i < 2 ^ e.nbits - 1) :
    let tok := printScaledValue trim (.f64 (.fin (cvtI64ToDval e i))) (some e.scale)
    cvtDvalToI64 code e (strtod tok) = i ∧ setDvalueAccepts code e (strtod tok) = true := by
  have hi' := natCast_lt_allOnes hi
  have h0 : (0:ℤ) ≤ i := Int.natCast_nonneg i
  have hnm : cvtI64ToDval e i ≠ maxDouble := decode_not_missing e hv i h0 hi'
  refine ⟨cvtDvalToI64_printScaledValue trim code e hv i hi, ?_⟩
  simp only [printScaledValue_decoded trim e hv i hi, C13_value_text e hv i hi]
  unfold setDvalueAccepts
  simp only [hnm, if_false, getRange_eq code e h31]
  have hlo := decode_ge_fmin e hv i h0 hi'
  have hhi := decode_le_fmax e hv i h0 hi'
  simp [not_lt.mp hlo, not_lt.mp hhi]

example : (⟨2, -27315, 16⟩ : Scale.Enc).Valid ∧ (30000:ℕ) < 2 ^ 16 - 1 ∧ Desc.x 12101 ≠ 31 := by decide

/-- the same at the level of a descriptor node: the loader's node (same descriptor and encoding,
any double in it) becomes the node that was printed -/
theorem C13_value_node (trim : Bool) (n n0 : Node) (r : Rec) (x0 : FP) (i : ℕ)
    (hty : n.enc.type = .numeric) (hv : (sEnc n.enc).Valid) (hi : i < 2 ^ (sEnc n.enc).nbits - 1)
    (hval : n.val = .f64 (.fin (cvtI64ToDval (sEnc n.enc) i)))
    (hn0 : n0 = { n with val := .f64 x0 }) (h31 : Desc.x n.desc ≠ 31) (hlk : class31Locked n0 = false) :
    storeTok n0 r (printDscptrValue trim n) = n := by
  have hi' := natCast_lt_allOnes hi
  have h0 : (0:ℤ) ≤ i := Int.natCast_nonneg i
  set x := Scale.cvtI64ToDval (sEnc n.enc) i with hx
  have hnm : x ≠ maxDouble := Scale.decode_not_missing _ hv i h0 hi'
  have hsc : (sEnc n.enc).scale = n.enc.scale := rfl
  have hprint : printDscptrValue trim n = printScaled n.enc.scale x := by
    unfold printDscptrValue
    rw [hty]
    simp only [hval]
    exact printScaledValue_decoded trim (sEnc n.enc) hv i hi
  have hstrtod : strtod (printScaled n.enc.scale x) = .fin x := by
    rw [← hsc]; exact strtod_printScaled _ hv i h0 hi'
  have hne : printScaled n.enc.scale x ≠ B "MSNG" := by
    unfold printScaled; split_ifs <;> exact fmtF_not_msng _ _
  rw [hprint]
  unfold storeTok
  have hv0 : n0.val = .f64 x0 := by rw [hn0]
  simp only [hv0, hne, if_false, hstrtod, fpMissingD, hnm, decide_false, Bool.false_eq_true]
  -- `bufr_descriptor_set_dvalue`
  unfold setDvalue
  rw [hlk]
  have hsome : n0.val.isSome = true := by rw [hv0]; rfl
  simp only [Bool.false_eq_true, if_false, hsome, if_true, Bool.not_true, fpMissingD, hnm, decide_false]
  have hrange : getRangeN n0 = some (Scale.dFmin (sEnc n.enc), Scale.dFmax (sEnc n.enc)) := by
    unfold getRangeN
    have : n0.enc = n.enc := by rw [hn0]
    have hd : n0.desc = n.desc := by rw [hn0]
    rw [this, hty, hd, getRange_eq _ _ h31]
  rw [hrange]
  have hlo := Scale.decode_ge_fmin _ hv i h0 hi'
  have hhi := Scale.decode_le_fmax _ hv i h0 hi'
  have hin : Scale.dFmin (sEnc n.enc) ≤ x ∧ x ≤ Scale.dFmax (sEnc n.enc) :=
    ⟨not_lt.mp hlo, not_lt.mp hhi⟩
  simp only [hin, and_self, if_true]
  rw [hn0]
  simp only [Val.setDouble]
  cases n
  simp_all

/-- **missing values**: a missing double is written `MSNG` and the loader's missing value stays -/
theorem C13_missing_roundtrip (trim : Bool) (n : Node) (r : Rec) (hty : n.enc.type = .numeric)
    (hval : n.val = .f64 (.fin maxDouble)) :
    printDscptrValue trim n = B "MSNG" ∧ storeTok n r (printDscptrValue trim n) = n := by
  have hprint : printDscptrValue trim n = B "MSNG" := by
    unfold printDscptrValue
    rw [hty]
    simp [hval, printScaledValue, fpMissingD]
  refine ⟨hprint, ?_⟩
  rw [hprint]
  unfold storeTok
  simp [hval]

/-- **integers** (`%d`, `%lld` against `atol`): code tables, integer-valued numerics, new
reference values -/
theorem C13_int_roundtrip (v : Int) (h0 : -(2:Int) ^ 63 ≤ v) (h1 : v < 2 ^ 63) :
    intOfTok false (fmtInt v) = v ∧ atol (fmtInt v) = v :=
  ⟨intOfTok_fmtInt v h0 h1, atol_fmtInt v h0 h1⟩

example : intOfTok false (fmtInt (-140879)) = -140879 := by decide +kernel
example : fmtInt 4000000001 = B "4000000001" := by decide +kernel

/-- **flag tables printed in binary**, up to 64 bits wide: the digits read back as the value -/
theorem C13_flag_roundtrip (v : Int) (n : Int) (h0 : 0 ≤ v) (h1 : v < 2 ^ 63) (hn : n ≤ 64) :
    intOfTok true (printBinary v n) = v :=
  intOfTok_printBinary v n h0 h1 hn

example : printBinary 7 4 = B "0111" := by decide +kernel
example : printBinary 4000000000 32 = B "11101110011010110010100000000000" := by rw [B_ofList]; decide +kernel
example : intOfTok true (printBinary 1234567890123 64) = 1234567890123 := by decide +kernel

/-- **strings with embedded and trailing blanks** (and quotes, braces, parentheses): the quoted
text is read back whole, and stored in the loader's node it gives the printed node -/
theorem C13_string_roundtrip (d : Nat) (hd : d < 2 ^ 31) (L : List (List Nat × Nat)) (hL : ∀ p ∈ L, BlockOK p.1)
    (a : Option (Nat × Nat)) (ha : ∀ p, a = some p → p.1 < 2 ^ 64) (str : List Nat) (hne : str ≠ [])
    (hs : ∀ c ∈ str, c ≠ 10 ∧ c ≠ 13) :
    parseLine (fmtD6 (d : Int) ++ 32 :: (renderMeta L ++ (afText a ++ (34 :: (str ++ [34]))) ++ [10])) =
      some { icode := (d : Int), af := a.map (fun p => some p.1), tok := some str, quoted := true } :=
  parseLine_quoted d hd L hL a ha str hne hs

theorem C13_string_node (n n0 : Node) (bs bs0 : List Nat) (hval : n.val = .str bs)
    (hlen : bs.length = (n.enc.nbits / 8).toNat) (hnul : ∀ c ∈ bs, c ≠ 0)
    (hn0 : n0 = { n with val := .str bs0 }) :
    storeTok n0 { icode := n.desc, tok := some (cstr bs), quoted := true } (cstr bs) = n := by
  have hc : cstr bs = bs := cstr_of_no_nul bs hnul
  have hpad : strPad (some bs) bs.length = bs := by
    unfold strPad
    have h1 : bs.takeWhile (fun x => !decide (x = 0)) = bs :=
      takeWhile_all _ bs (by intro x hx; simp [hnul x hx])
    simp [h1]
  subst hn0
  simp only [storeTok, true_or, if_true, hc, setSvalue, Val.isSome, Val.setString, ← hlen, hpad]
  cases n
  simp_all

-- a string with a leading blank, an embedded `}` and quote, trailing blanks, after a meta block
example : parseLine (B "001015 {R=1} \" a}\"b  \"\n") =
    some { icode := 1015, af := none, tok := some (B " a}\"b  "), quoted := true } := by
  rw [B_ofList, B_ofList]; decide +kernel
-- the four characters MSNG in quotes are a string, not a missing value
example : parseLine (B "001104 \"MSNG\"\n") = some { icode := 1104, tok := some (B "MSNG"), quoted := true } := by
  rw [B_ofList, B_ofList]; decide +kernel

/-- **associated fields**: `(0x…:Nbits)` before the value gives the bits back, and the value
after it is read as without it -/
theorem C13_af_roundtrip (d : Nat) (hd : d < 2 ^ 31) (L : List (List Nat × Nat)) (hL : ∀ p ∈ L, BlockOK p.1)
    (bits w : Nat) (hb : bits < 2 ^ 64) (V : List Nat) (hV : CleanTok V) :
    parseLine (fmtD6 (d : Int) ++ 32 :: (renderMeta L ++ (printAf bits w ++ V) ++ [10])) =
      some { icode := (d : Int), af := some (some bits), tok := some V, quoted := false } := by
  have := parseLine_value d hd L hL (some (bits, w)) (by intro p hp; simp at hp; rw [← hp]; exact hb) V hV
  simpa [afText] using this

example : parseLine (B "020011 {R=2} (0xbc:8bits)2\n") =
    some { icode := 20011, af := some (some 188), tok := some (B "2") } := by rw [B_ofList, B_ofList]; decide +kernel

/-- **one dump line**: for every node and every meta text made of `{…}` blocks, under the
conditions `NodeText`, the line `bufr_fdump_dataset` writes is one `fgets` holds whole (no NUL, one
line feed, at most 2047 characters) and `bufr_load_datasubsets` parses it to the node's record -/
theorem C13_line_roundtrip (trim : Bool) (mt : List Nat) (n : Node) (h : NodeText trim mt n)
    (hc : isComment n = false) : parseLine (printNode trim mt n) = some (recOf trim n) :=
  (lineOK_of_nodeText trim mt n h).parse hc

/-- **Section 1 header fields**, data flag and header string survive the text form: the header
block is read back into the header it was printed from (the sub-centre, which editions before 3 do
not have, and the header string when there is none, come from the dataset read into) -/
theorem C13_header_roundtrip (ed : Nat) (hed : ed < 2 ^ 31) (h0 h : Hdr) (hok : HdrOK h)
    (i n : Nat) (hi : i < 10 ^ 9) (hn : n < 10 ^ 9) (s : List Nat) (F : Nat) (hF : 21 ≤ F) :
    loadHeader F h0 (printHeader ed h ++ (dsLine i n ++ s)) = (hdrLoaded ed h0 h, dsLine i n ++ s, true) :=
  loadHeader_printHeader ed hed h0 h hok i n hi hn s F hF

theorem C13_header_same (ed : Nat) (hed3 : 3 ≤ ed) (h0 h : Hdr) (hs : ∀ s, h.headerString = some s → cstr s = s)
    (hd : h0.s1data = h.s1data) :
    hdrLoaded ed { h0 with headerString := none } h = h := by
  unfold hdrLoaded
  have : ed ≥ 3 := hed3
  cases hh : h.headerString with
  | none => cases h; simp_all
  | some s => have := hs s hh; cases h; simp_all

def exHdr : Hdr :=
  { masterTable := 0, centre := 54, subCentre := 3, updSeq := 1, msgType := 2, interSub := 3,
    localSub := 4, masterVer := 17, localVer := 1, year := 2024, month := 2, day := 3, hour := 4, minute := 5,
    second := 6, dataFlag := 192, headerString := some (B "IUSA01 \"x\"") }

/-- decidable form of `HdrOK` -/
def hdrOKB (h : Hdr) : Bool :=
  let sh (v : Int) : Bool := decide (-32768 ≤ v ∧ v ≤ 32767)
  sh h.masterTable && decide (-(2:Int) ^ 31 ≤ h.centre ∧ h.centre < 2 ^ 31) && sh h.subCentre && sh h.updSeq &&
  sh h.msgType && sh h.interSub && sh h.localSub && sh h.masterVer && sh h.localVer && sh h.year && sh h.month &&
  sh h.day && sh h.hour && sh h.minute && sh h.second && decide (0 ≤ h.dataFlag ∧ h.dataFlag < 2 ^ 31) &&
  (match h.headerString with
   | some s => (cstr s).all (· ≠ 10) && decide ((cstr s).length ≤ 2000)
   | none => true)

theorem hdrOK_of_B (h : Hdr) (hb : hdrOKB h = true) : HdrOK h := by
  unfold hdrOKB at hb
  simp only [Bool.and_assoc, Bool.and_eq_true, decide_eq_true_eq] at hb
  obtain ⟨mt, ce, sc, us, ty, is, ls, mv, lv, ye, mo, da, ho, mi, se, fl, hs⟩ := hb
  refine ⟨mt, ce, sc, us, ty, is, ls, mv, lv, ye, mo, da, ho, mi, se, fl, fun s hs' => ?_⟩
  rw [hs'] at hs
  simp only [Bool.and_eq_true, List.all_eq_true, decide_eq_true_eq] at hs
  exact ⟨fun x hx => by simpa using hs.1 x hx, hs.2⟩

example : HdrOK exHdr := hdrOK_of_B _ (by decide +kernel)
example : printHeader 4 exHdr = B ("BUFR_EDITION=4\nHEADER_STRING=\"IUSA01 \"x\"\"\nBUFR_MASTER_TABLE=0\nORIG_CENTER=54\n" ++
    "ORIG_SUB_CENTER=3\nUPDATE_SEQUENCE=1\nDATA_CATEGORY=2\nINTERN_SUB_CATEGORY=3\nLOCAL_SUB_CATEGORY=4\n" ++
    "MASTER_TABLE_VERSION=17\nLOCAL_TABLE_VERSION=1\nYEAR=2024\nMONTH=2\nDAY=3\nHOUR=4\nMINUTE=5\nSECOND=6\n" ++
    "DATA_FLAG=192\nCOMPRESSED=1\n") := by
  rw [B_append, B_append, B_append, B_ofList, B_ofList, B_ofList, B_ofList]
  decide +kernel

/-- **reading the text of a dataset is walking its records**: `bufr_read_dataset_dump` on what
`bufr_fdump_dataset` wrote (followed by nothing, or by the next dataset of the file) returns 1,
leaves the rest of the stream untouched, and yields the dataset whose subsets are the loader's
walks over the records of the printed nodes — for every dataset whose lines satisfy `LineOK`
(see `C13_line_roundtrip`), every meta text, both zero-trimming settings.  No text is left in
the right-hand side. -/
theorem C13_text_roundtrip (T : Tables) (t : Template) (fuel : Nat) (trim : Bool) (metas : List (List (List Nat)))
    (ds : Dataset) (hok : TextOK trim metas ds) (hed : t.edition < 2 ^ 31) (sts : List LdSt)
    (hw : List.Forall₂ (fun ns st => walk T t.edition fuel trim { todo := bsqOf T t } ns = some st) ds.subsets sts)
    (h0 : Hdr) (tail : List Nat) (ht : Tail tail) :
    readDataset T t fuel h0 (Dump.print trim t.edition metas ds ++ tail) =
      (1, { hdr := loadedHdr t.edition h0 ds (bsqErr T t || sts.any (·.invalid)),
            subsets := sts.map (finishSubset T fuel) }, tail) :=
  readDataset_print T t fuel trim metas ds hok hed sts hw h0 tail ht

/-- **several datasets concatenated in one text are loaded one by one, in order**: the loop of
`bufr_genmsgs_from_dump` on the texts of `items` returns exactly one dataset per item, in the
order of the text, each the walk of its own records, and ends with status 0 at the end of the text -/
theorem C13_concat (T : Tables) (t : Template) (fuel : Nat) (hed : t.edition < 2 ^ 31) (items : List Item)
    (hok : ∀ it ∈ items, it.OK T t fuel) (F : Nat) (hF : items.length < F) (h0 : Hdr) :
    loadAll T t fuel F h0 ((items.map fun it => Dump.print it.trim t.edition it.metas it.ds).flatten) =
      (loadedList T t fuel h0 items, 0) :=
  loadAll_prints T t fuel hed items hok F hF h0

theorem loadedList_length (T : Tables) (t : Template) (fuel : Nat) (h0 : Hdr) (items : List Item) :
    (loadedList T t fuel h0 items).length = items.length := by
  induction items generalizing h0 with
  | nil => rfl
  | cons it r ih => simp [loadedList, ih]

/-- the structural hypothesis: the walk over the item's records, started from the header `h0`,
gives a dataset that encodes to the same message as the original (no text involved; decidable) -/
def Reloads (T : Tables) (t : Template) (fuel : Nat) (h0 : Hdr) (it : Item) (c : Int) : Prop :=
  (encodeMessage T t (it.loaded T t fuel h0) c).2.2 = (encodeMessage T t it.ds c).2.2

instance (T : Tables) (t : Template) (fuel : Nat) (h0 : Hdr) (it : Item) (c : Int) : Decidable (Reloads T t fuel h0 it c) := by
  unfold Reloads; infer_instance

/-- **dump, load, encode = encode** (compressed and not), under `Reloads`.  PARTIAL: what is
missing is a proof that `Reloads` holds for every dataset the library's constructors and decoder
build (see the header of this file). -/
theorem C13_roundtrip_partial (T : Tables) (t : Template) (fuel : Nat) (hed : t.edition < 2 ^ 31) (it : Item)
    (hok : it.OK T t fuel) (h0 : Hdr) (c : Int) (hr : Reloads T t fuel h0 it c) (tail : List Nat) (ht : Tail tail) :
    let r := readDataset T t fuel h0 (Dump.print it.trim t.edition it.metas it.ds ++ tail)
    r.1 = 1 ∧ r.2.2 = tail ∧ (encodeMessage T t r.2.1 c).2.2 = (encodeMessage T t it.ds c).2.2 := by
  have := readDataset_print T t fuel it.trim it.metas it.ds hok.text hed it.sts hok.walks h0 tail ht
  simp only [this]
  exact ⟨trivial, trivial, hr⟩

/-- the same for a file of several datasets: as many are loaded as were dumped, in order, and
dataset `k` encodes to the message of the `k`-th dataset dumped (under `Reloads` for each, with
the header the loop carries from one dataset to the next) -/
theorem C13_concat_partial (T : Tables) (t : Template) (fuel : Nat) (hed : t.edition < 2 ^ 31) (items : List Item)
    (hok : ∀ it ∈ items, it.OK T t fuel) (F : Nat) (hF : items.length < F) (h0 : Hdr) (c : Int)
    (hr : ∀ (k : Nat) (hk : k < items.length),
      (encodeMessage T t ((loadedList T t fuel h0 items)[k]'(by rw [loadedList_length]; exact hk)) c).2.2 =
        (encodeMessage T t items[k].ds c).2.2) :
    let r := loadAll T t fuel F h0 ((items.map fun it => Dump.print it.trim t.edition it.metas it.ds).flatten)
    r.2 = 0 ∧ r.1.length = items.length ∧
      ∀ (k : Nat) (hk : k < items.length) (hk' : k < r.1.length),
        (encodeMessage T t r.1[k] c).2.2 = (encodeMessage T t items[k].ds c).2.2 := by
  have := loadAll_prints T t fuel hed items hok F hF h0
  simp only [this]
  refine ⟨trivial, loadedList_length T t fuel h0 items, ?_⟩
  intro k hk hk'
  exact hr k hk

/-- decidable form of `CleanTok` -/
def cleanTokB (V : List Nat) : Bool := !V.isEmpty && V.all isTokChar

theorem cleanTok_of_B (V : List Nat) (h : cleanTokB V = true) : CleanTok V := by
  unfold cleanTokB at h
  simp only [Bool.and_eq_true, Bool.not_eq_true', List.all_eq_true] at h
  exact ⟨by intro hv; rw [hv] at h; simp at h, h.2⟩

/-- decidable form of `NodeText` for a node printed without meta text -/
def nodeTextB (trim : Bool) (n : Node) : Bool :=
  decide (n.desc < 2 ^ 31) && decide (n.afBits < 2 ^ 64) &&
  (n.flags.skipped || (match n.val with
     | .none => true
     | .str bs => decide (n.enc.type ≠ .flagtable) && !(cstr bs).isEmpty && (cstr bs).all (fun c => c ≠ 10 && c ≠ 13)
     | _ => cleanTokB (printDscptrValue trim n))) &&
  decide ((printNode trim [] n).length ≤ 2047)

theorem nodeText_of_B (trim : Bool) (n : Node) (h : nodeTextB trim n = true) : NodeText trim [] n := by
  unfold nodeTextB at h
  simp only [Bool.and_eq_true, decide_eq_true_eq, Bool.or_eq_true] at h
  obtain ⟨⟨⟨h1, h2⟩, h3⟩, h4⟩ := h
  refine ⟨h1, fun _ => ⟨[], rfl, by simp⟩, h2, ?_, ?_, h4⟩
  · intro bs hs hv
    rcases h3 with h3 | h3
    · rw [hs] at h3; simp at h3
    · rw [hv] at h3
      simp only [Bool.and_eq_true, decide_eq_true_eq, Bool.not_eq_true', List.all_eq_true] at h3
      refine ⟨h3.1.1, by intro he; rw [he] at h3; simp at h3, ?_⟩
      intro c hc; have := h3.2 c hc; simpa using this
  · intro hs hv hns
    rcases h3 with h3 | h3
    · rw [hs] at h3; simp at h3
    · cases hval : n.val with
      | none => rw [hval] at hv; simp [Val.isSome] at hv
      | str bs => exact absurd hval (hns bs)
      | i32 v => rw [hval] at h3; exact cleanTok_of_B _ h3
      | i64 v => rw [hval] at h3; exact cleanTok_of_B _ h3
      | f32 v => rw [hval] at h3; exact cleanTok_of_B _ h3
      | f64 v => rw [hval] at h3; exact cleanTok_of_B _ h3

theorem zipMeta_nil (ns : List Node) : zipMeta ns [] = ns.map (·, []) := by
  induction ns with
  | nil => rfl
  | cons n t ih => simp [zipMeta, ih]

theorem zipMetas_nil (ss : List (List Node)) : zipMetas ss [] = ss.map (·, []) := by
  induction ss with
  | nil => rfl
  | cons n t ih => simp [zipMetas, ih]

/-- decidable form of `TextOK` for a dataset printed without meta text -/
def textOKB (trim : Bool) (ds : Dataset) : Bool :=
  hdrOKB ds.hdr && !ds.subsets.isEmpty && decide (ds.subsets.length + 1 < 10 ^ 9) &&
  ds.subsets.all (fun ns => decide (ns.length < 10 ^ 9) && ns.all (nodeTextB trim))

theorem textOK_of_B (trim : Bool) (ds : Dataset) (h : textOKB trim ds = true) : TextOK trim [] ds := by
  unfold textOKB at h
  simp only [Bool.and_eq_true, decide_eq_true_eq, Bool.not_eq_true', List.all_eq_true] at h
  obtain ⟨⟨⟨h1, h2⟩, h3⟩, h4⟩ := h
  refine ⟨hdrOK_of_B _ h1, by intro he; rw [he] at h2; simp at h2, h3, fun ns hns => (h4 ns hns).1, ?_⟩
  intro p hp q hq
  rw [zipMetas_nil] at hp
  simp only [List.mem_map] at hp
  obtain ⟨ns, hns, rfl⟩ := hp
  rw [zipMeta_nil] at hq
  simp only [List.mem_map] at hq
  obtain ⟨n, hn, rfl⟩ := hq
  exact lineOK_of_nodeText trim [] n (nodeText_of_B trim n ((h4 ns hns).2 n hn))

theorem forall₂_of_mapM {α β} (f : α → Option β) (l : List α) (r : List β) (h : l.mapM f = some r) :
    List.Forall₂ (fun a b => f a = some b) l r := by
  induction l generalizing r with
  | nil => simp at h; subst h; exact List.Forall₂.nil
  | cons a t ih =>
    rw [List.mapM_cons] at h
    cases hfa : f a with
    | none => rw [hfa] at h; simp at h
    | some b =>
      rw [hfa] at h
      cases ht : t.mapM f with
      | none => rw [ht] at h; simp at h
      | some r' =>
        rw [ht] at h; simp at h; subst h
        exact List.Forall₂.cons hfa (ih r' ht)

/-- an item printed without meta text, with the end states of its walks computed -/
def mkItem (T : Tables) (t : Template) (fuel : Nat) (trim : Bool) (ds : Dataset) : Option Item :=
  (ds.subsets.mapM (walk T t.edition fuel trim { todo := bsqOf T t })).map fun sts =>
    { trim := trim, metas := [], ds := ds, sts := sts }

theorem mkItem_ok (T : Tables) (t : Template) (fuel : Nat) (trim : Bool) (ds : Dataset) (it : Item)
    (h : mkItem T t fuel trim ds = some it) (htxt : textOKB trim ds = true) : it.OK T t fuel := by
  unfold mkItem at h
  cases hm : ds.subsets.mapM (walk T t.edition fuel trim { todo := bsqOf T t }) with
  | none => rw [hm] at h; simp at h
  | some sts =>
    rw [hm] at h; simp at h; subst h
    exact ⟨textOK_of_B trim ds htxt, forall₂_of_mapM _ _ _ hm⟩

/-- a small table set: integer, character, scaled (positive and negative scale), factor, code and
flag table elements -/
def exB : List EntryB :=
  [ { desc := 1001, scale := 0, ref := 0, nbits := 7, typ := .numeric },
    { desc := 1019, scale := 0, ref := 0, nbits := 64, typ := .ccitt },
    { desc := 12101, scale := 2, ref := 0, nbits := 16, typ := .numeric },
    { desc := 10004, scale := -1, ref := 0, nbits := 14, typ := .numeric },
    { desc := 31001, scale := 0, ref := 0, nbits := 8, typ := .numeric },
    { desc := 31021, scale := 0, ref := 0, nbits := 6, typ := .codetable },
    { desc := 20011, scale := 0, ref := 0, nbits := 4, typ := .codetable },
    { desc := 2002, scale := 0, ref := 0, nbits := 4, typ := .flagtable } ]

def exT : Tables := { fetchB := fun d => exB.find? (·.desc = d), fetchD := fun _ => none }

/-- a template with an associated field (2 04 008) and a delayed replication of a flag table -/
def exTmpl : Template :=
  match createTemplate exT 100 4 [1001, 1019, 12101, 10004, 204008, 31021, 20011, 204000, 101000, 31001, 2002] with
  | .ok t => t
  | .error _ => { edition := 4, descs := [], gabarit := [], hasDelayed := false }

def exVals (ns : List Node) : List Node := ns.map fun n =>
  if n.flags.skipped then n
  else if n.desc = 1001 then (setRaw n 64).1
  else if n.desc = 1019 then (setSvalue n (B " a}\"b")).1            -- leading blank, `}`, quote, trailing blanks
  else if n.desc = 12101 then (setRaw n 30000).1
  else if n.desc = 10004 then (setRaw n 16382).1                      -- the largest raw value of a negative scale
  else if n.desc = 20011 then { (setRaw n 2).1 with afBits := 188 }
  else if n.desc = 2002 then (setRaw n 7).1
  else n

/-- a subset built the way an application does: new subset, replication factor, expansion, values -/
def exSubset (factor : Int) : List Node :=
  match createDatasubset exT 100 exTmpl with
  | .ok (s, _) =>
    let ns := s.nodes.map fun n => if n.desc = 31001 then { n with val := n.val.setInt32 factor } else n
    match expandDatasubset exT 100 exTmpl { nodes := ns } with
    | .ok (s2, _) => exVals s2.nodes
    | .error _ => []
  | .error _ => []

def exDs1 : Dataset := { hdr := exHdr, subsets := [exSubset 2, exSubset 0] }

def exDs2 : Dataset := { hdr := { exHdr with headerString := none, year := 1999, dataFlag := 0 }, subsets := [exSubset 1] }

-- the text of the first dataset's first subset
example : printSubset true 0 [] (exSubset 2) = B ("DATASUBSET 1 : 12 codes\n001001 64\n001019 \" a}\"b   \"\n012101 300.00\n" ++
    "010004 163820.0\n204008 \n031021 MSNG\n020011 (0xbc:8bits)2\n204000 \n101000 \n031001 2\n002002 0111\n002002 0111\n\n") := by
  rw [B_append, B_ofList, B_ofList]
  decide +kernel
-- a replication that occurs zero times: its placeholder is a comment
example : printSubset false 1 [] (exSubset 0) = B ("DATASUBSET 2 : 11 codes\n001001 64\n001019 \" a}\"b   \"\n012101 300.00\n" ++
    "010004 163820.0\n204008 \n031021 MSNG\n020011 (0xbc:8bits)2\n204000 \n101000 \n031001 0\n#002002 \n\n") := by
  rw [B_append, B_ofList, B_ofList]
  decide +kernel

-- the hypotheses of `C13_text_roundtrip`, `C13_roundtrip_partial` hold for it, for both trim settings,
-- compressed and not
example : textOKB true exDs1 = true ∧ textOKB false exDs1 = true ∧ textOKB true exDs2 = true := by decide +kernel
example : ∃ it, mkItem exT exTmpl 100 true exDs1 = some it ∧ it.OK exT exTmpl 100 ∧
    Reloads exT exTmpl 100 {} it 0 ∧ Reloads exT exTmpl 100 {} it 1 := by
  have h : (mkItem exT exTmpl 100 true exDs1).any (fun it =>
      decide (Reloads exT exTmpl 100 {} it 0) && decide (Reloads exT exTmpl 100 {} it 1)) = true ∧
      textOKB true exDs1 = true := by decide +kernel
  cases hm : mkItem exT exTmpl 100 true exDs1 with
  | none => rw [hm] at h; simp at h
  | some it =>
    rw [hm] at h
    simp only [Option.any_some, Bool.and_eq_true, decide_eq_true_eq] at h
    exact ⟨it, rfl, mkItem_ok _ _ _ _ _ it hm h.2, h.1⟩
-- end to end on the model: dump, load, encode = encode, for a file of two datasets
private theorem loadAll_exDs :
    (loadAll exT exTmpl 100 5 {} (Dump.print true 4 [] exDs1 ++ Dump.print false 4 [] exDs2)).1.map
        (fun ds => (encodeMessage exT exTmpl ds 0).2.2) =
      [exDs1, exDs2].map (fun ds => (encodeMessage exT exTmpl ds 0).2.2) ∧
    (loadAll exT exTmpl 100 5 {} (Dump.print true 4 [] exDs1 ++ Dump.print false 4 [] exDs2)).2 = 0 := by
  decide +kernel

example : (loadAll exT exTmpl 100 5 {} (Dump.print true 4 [] exDs1 ++ Dump.print false 4 [] exDs2)).1.map
      (fun ds => (encodeMessage exT exTmpl ds 0).2.2) =
    [exDs1, exDs2].map (fun ds => (encodeMessage exT exTmpl ds 0).2.2) := loadAll_exDs.1
example : (loadAll exT exTmpl 100 5 {} (Dump.print true 4 [] exDs1 ++ Dump.print false 4 [] exDs2)).2 = 0 :=
  loadAll_exDs.2

/-- a dataset whose Section 1 carries two additional (local use) octets, as a decoded message of an
ADP centre may -/
def exDs3 : Dataset := { hdr := { exHdr with headerString := none, s1data := [170, 187] }, subsets := [exSubset 1] }

/-- **FAILS (known finding C13-sect1-local-octets)**: the dump has no line for the additional
octets of Section 1, so the dataset loaded from the text encodes to a shorter Section 1: the
messages differ.  Forced hypothesis of the round trip: `hdr.s1data = []`. -/
theorem C13_sect1_local_octets_fails :
    (encodeMessage exT exTmpl (readDataset exT exTmpl 100 {} (Dump.print true 4 [] exDs3)).2.1 0).2.2 ≠
      (encodeMessage exT exTmpl exDs3 0).2.2 := by decide +kernel

-- without the additional octets the same dataset does round-trip
example : (encodeMessage exT exTmpl (readDataset exT exTmpl 100 {} (Dump.print true 4 [] { exDs3 with hdr := { exDs3.hdr with s1data := [] } })).2.1 0).2.2 =
    (encodeMessage exT exTmpl { exDs3 with hdr := { exDs3.hdr with s1data := [] } } 0).2.2 := by decide +kernel

end Bufr.C13
