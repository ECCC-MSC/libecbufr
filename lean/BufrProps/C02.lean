import BufrProofs.CodecCompressed
/-
  C02 — Compression never changes content; incompressible datasets fall back safely.

  Property theorems only (helper lemmas: BufrProofs/Codec.lean, CodecCompressed.lean).  Model:
  BufrModel/Codec.lean (`putNumericCompressed`, `encNumCol`, `compressible`, `encodeData`) and
  BufrModel/Decode.lean (`getNumericCompressed`, `setBitsValue`, `decodeCompressedLoop`), tied to
  bufr_dataset.c by the correspondence streams of props/c02.py (compress = 1 against compress = 0 for the
  same dataset).

  Proved at full strength: the numeric/code/flag column codec (every width 1..64, every number of
  subsets, every mixture of present and missing raw values, every slice request), the encoder's
  choice of R0/NBINC being sound, the associated-field, character and IEEE column codecs, the fall-back
  to uncompressed form, that the compressed and the uncompressed decoder turn the same raw bits into
  the same value, and the lock-step walk over all columns of a static template
  (`C02_static_compressed`; no theorem here walks a template with delayed replication in compressed form).
-/
namespace Bufr.C02
open Bufr

/-- a single subset is never compressed -/
theorem C02_single_subset_not_compressed (s : List Node) : compressible [s] = false := rfl

/-- **numeric column round trip.**  For one element of `n ≥ 1` subsets holding any raw values that
fit its width (missing = all ones included): what `bufr_put_numeric_compressed` writes is read by
`bufr_get_numeric_compressed` back into exactly those raw values, subset by subset, for the whole
dataset or any slice `from..to`, and the cursor stops right after the column.  (The `hspread`
clause is what `bufr_dataset_compressible` now tests for 64-bit elements.) -/
theorem C02_numeric_column (w : W) (hI : WInv w) (n0 : Node) (rest : List Node)
    (h1 : 1 ≤ n0.enc.nbits) (h2 : n0.enc.nbits ≤ 64)
    (hv : ∀ n ∈ n0 :: rest, value2bits n ≤ missingIvalue n0.enc.nbits)
    (hspread : n0.enc.nbits = 64 → ∀ a ∈ n0 :: rest, ∀ b ∈ n0 :: rest,
      value2bits a ≠ missingIvalue n0.enc.nbits → value2bits b ≠ missingIvalue n0.enc.nbits →
      value2bits a - value2bits b < 2^63 - 1)
    (r : R) (hIr : RInv r) (tail : List Bool)
    (hb : w.bits ++ r.bits = (putNumericCompressed w (n0 :: rest)).bits ++ tail)
    (cb : Node) (col : List Node) (hnb : cb.enc.nbits = n0.enc.nbits)
    (g : Range) (hg : g.OK) (hn : g.nsub = (n0 :: rest).length) (hcol : (cb :: col).length = g.count) :
    ∃ r', getNumericCompressed r (cb :: col) g =
        some (r', zipWithNodes setBitsValue (cb :: col) (g.slice ((n0 :: rest).map value2bits))) ∧
      r'.bits = tail ∧ RInv r' :=
  numeric_column_roundtrip w hI n0 rest h1 h2 hv hspread r hIr tail hb cb col hnb g hg hn hcol

/-- **the encoder's column plan is sound**: R0 fits the element, NBINC fits both its 6-bit field
and the element width, a column announced as constant is constant, and a listed column gives each
subset its own raw value back with all ones (and only all ones) meaning missing -/
theorem C02_plan_sound (nb : Int) (h1 : 1 ≤ nb) (h2 : nb ≤ 64) (vals : List Nat) (hne : vals ≠ [])
    (hv : ∀ v ∈ vals, v ≤ missingIvalue nb)
    (hspread : nb = 64 → ∀ a ∈ vals, ∀ b ∈ vals, a ≠ missingIvalue nb → b ≠ missingIvalue nb → a - b < 2^63 - 1) :
    (encNumCol nb vals).1 ≤ missingIvalue nb ∧
    ((encNumCol nb vals).2.1 : Int) ≤ nb ∧ (encNumCol nb vals).2.1 < 64 ∧
    ((encNumCol nb vals).2.1 = 0 → (encNumCol nb vals).2.2 = [] ∧ ∀ v ∈ vals, v = (encNumCol nb vals).1) ∧
    ((encNumCol nb vals).2.1 > 0 → (encNumCol nb vals).2.2.length = vals.length ∧
      (encNumCol nb vals).2.2.map (decInc nb (encNumCol nb vals).1 (encNumCol nb vals).2.1) = vals) :=
  encNumCol_sound nb h1 h2 vals hne hv hspread

/-- **safe fall-back**: when the subsets cannot be expressed in compressed form, asking for
compression produces exactly the uncompressed data section, and the compression bit of the Section 3
flag is clear -/
theorem C02_fallback (ss : List (List Node)) (dataFlag : Nat) (h : compressible ss = false) :
    (encodeData ss dataFlag 1).2 = (encodeData ss dataFlag 0).2 ∧
    (encodeData ss dataFlag 1).1 = (encodeData ss dataFlag 0).1 := by
  unfold encodeData
  simp [h]

/-- the compression bit is set exactly when the compressed form was written -/
theorem C02_flag (ss : List (List Node)) (dataFlag : Nat) (h : compressible ss = true) :
    (encodeData ss dataFlag 1).1 = (dataFlag &&& (BUFR_FLAG_OBSERVED ||| BUFR_FLAG_COMPRESSED)) ||| BUFR_FLAG_COMPRESSED ∧
    (encodeData ss dataFlag 1).2 = (columns ss).foldl putColumn ((W.new 0).alloc (s4Estimate ss)) := by
  unfold encodeData
  simp [h]

/-- **one value function**: the compressed decoder (`bufr_descriptor_set_bitsvalue`) and the
uncompressed one (`bufr_get_desc_value`) turn the same raw bits of a code table, flag table or
integer element into the same value — class 31 included, where all ones is a count and never a
missing value (the element reference of class 31 being 0, as in every table) -/
theorem C02_same_value_function (n : Node) (raw : Nat) (hs : n.flags.skipped = false)
    (hx : Desc.x n.desc = 31 → n.enc.ref = 0)
    (ht : n.enc.type = .codetable ∨ n.enc.type = .flagtable ∨
      (n.enc.type = .numeric ∧ ∃ v, (mkvalNode n).val = .i32 v ∨ (mkvalNode n).val = .i64 v)) :
    (setBitsValue n raw).val = valueOfBits (mkvalNode n) (mkvalNode n).val raw := by
  have he := (mkvalNode_enc n).1
  have hd := (mkvalNode_enc n).2
  unfold setBitsValue valueOfBits
  simp only [hs, Bool.false_eq_true, if_false, he, hd]
  rcases ht with h | h | ⟨h, v, hv | hv⟩
  · simp [h]
  · simp [h]
  all_goals
    simp only [h, hv]
    by_cases hm : raw = missingIvalue n.enc.nbits <;> by_cases h31 : Desc.x n.desc = 31 <;> simp [hm, h31, hx]

/-- the delayed replication factor 0 31 001 holding 255 in compressed data is the count 255 (before the repair
`bufr_descriptor_set_bitsvalue` made it the missing value and the decoder expanded nothing) -/
example : (setBitsValue { desc := 31001, enc := { type := .numeric, nbits := 8 } } 255).val.getInt64 = 255 := by decide

/-- **associated-field column round trip** (whole dataset): every subset gets its own associated
field back, whether the encoder wrote the constant or the listed form -/
theorem C02_af_column (w : W) (hI : WInv w) (n0 : Node) (rest : List Node)
    (haf : ¬ (n0.enc.afNbits = 0 ∨ n0.afW = 0)) (hall : ∀ n ∈ n0 :: rest, n.afW > 0)
    (hw : n0.afW ≤ 62) (hv : ∀ n ∈ n0 :: rest, n.afBits < 2^n0.afW)
    (r : R) (hIr : RInv r) (tail : List Bool)
    (hb : w.bits ++ r.bits = (putAfCompressed w (n0 :: rest)).bits ++ tail)
    (cb : Node) (col : List Node) (hcaf : cb.enc.afNbits ≠ 0) (hcw : (mkvalNode cb).afW = n0.afW)
    (g : Range) (hfull : g.from_ ≤ 0) (hn : g.nsub = (n0 :: rest).length) (hcol : (cb :: col).length = g.nsub) :
    ∃ r', getAfCompressed r (cb :: col) g =
        some (r', zipWithNodes (fun n v => { mkvalNode n with afBits := v }) (cb :: col) ((n0 :: rest).map (·.afBits))) ∧
      r'.bits = tail ∧ RInv r' := by
  have h := af_column_roundtrip w hI n0 rest haf hall hw hv r hIr tail hb cb col hcaf hcw g (Or.inl hfull) hn
    (by rw [g.count_full hfull, hcol])
  rwa [g.slice_full hfull] at h

/-- **IEEE column round trip** (2 09 032 / 2 09 064, whole dataset or any slice): whatever the encoder writes for a
column of IEEE fields — the value once when every subset holds the same *bits*, every value in full otherwise —
the decoder hands each subset of the request its own 32 or 64 bits and ends right behind the column.  Equality is
equality of bit patterns: infinities, the largest finite values (the library's "missing" reals among them) and
signed zeros are values of their own. -/
theorem C02_ieee_column (w : W) (hI : WInv w) (n0 : Node) (rest : List Node)
    (r : R) (hIr : RInv r) (tail : List Bool)
    (hb : w.bits ++ r.bits = (putIeeeCompressed w (n0 :: rest)).bits ++ tail)
    (cb : Node) (col : List Node) (hnb : cb.enc.nbits = if n0.enc.nbits = 64 then 64 else 32)
    (g : Range) (hg : g.OK) (hn : g.nsub = (n0 :: rest).length) (hcol : (cb :: col).length = g.count) :
    ∃ r', getIeeeCompressed r (cb :: col) g =
        some (r', zipWithNodes ieeeSetv (cb :: col)
          ((g.slice ((n0 :: rest).map valueBits)).map (· % 2^cb.enc.nbits.toNat))) ∧
      r'.bits = tail ∧ RInv r' :=
  ieee_column_roundtrip w hI n0 rest r hIr tail hb cb col hnb g hg hn hcol

/-- **character column round trip** (whole dataset, fields of 1..63 octets): whether the encoder
lists the strings (they differ) or announces one for all (it regards them as equal: same
significant part, trailing blanks aside), every subset gets back the octets of its own value, blank
padded to the element width -/
theorem C02_character_column (w : W) (hI : WInv w) (n0 : Node) (rest : List Node)
    (h8 : 8 ≤ n0.enc.nbits) (hm8 : n0.enc.nbits % 8 = 0) (h63 : n0.enc.nbits / 8 ≤ 63)
    (hu : ∀ n ∈ n0 :: rest, n.enc.nbits = n0.enc.nbits)
    (hz : ∀ c ∈ trimStr (valueString n0) (n0.enc.nbits / 8).toNat, c ≠ 0)
    (r : R) (hIr : RInv r) (tail : List Bool)
    (hb : w.bits ++ r.bits = (putCcittCompressed w (n0 :: rest)).bits ++ tail)
    (cb : Node) (col : List Node) (hcnb : cb.enc.nbits = n0.enc.nbits)
    (hcu : ∀ n ∈ cb :: col, (mkvalNode n).val = (mkvalNode cb).val ∧ (mkvalNode n).enc.nbits = cb.enc.nbits)
    (g : Range) (hfull : g.from_ ≤ 0) (hn : g.nsub = (n0 :: rest).length) (hcol : (cb :: col).length = g.nsub) :
    ∃ r', getCcittCompressed r (cb :: col) g =
        some (r', zipWithStrs (fun n s => { mkvalNode n with
            val := (mkvalNode cb).val.setString (some s) (cb.enc.nbits / 8).toNat })
          (cb :: col) ((n0 :: rest).map (fun n => (paddedString n).map (· % 256)))) ∧
      r'.bits = tail ∧ RInv r' :=
  ccitt_column_roundtrip w hI n0 rest h8 hm8 h63 hu hz r hIr tail hb cb col hcnb hcu g hfull hn hcol

/-- values the encoder treats as one are written as the same octets: nothing is lost by the
constant form -/
theorem C02_equal_strings_same_octets (a b : List Nat) (enclen : Nat) (hz : ∀ c ∈ trimStr a enclen, c ≠ 0)
    (h : strDiffers a b enclen = false) :
    a.take enclen ++ List.replicate (enclen - a.length) 32 = b.take enclen ++ List.replicate (enclen - b.length) 32 :=
  padded_eq_of_not_differs a b enclen hz h

/-- **static templates, compressed form** (`k+1` subsets): reading the compressed body the encoder
wrote column by column, the lock-step decoder returns `k+1` subsets with `decElem` at every position
(the value that subset had: raw bits through the one value function, octets of its own string, its own
associated field), keeps the invalid flag as it was, never dereferences a missing node and stops
right after the last column -/
theorem C02_static_compressed (T : Tables) (edition s4max : Nat) (enforce : Enforce) (k : Nat) (fuel : Nat)
    (bsq : List Node) (cols : List (List Node)) (w : W) (hIw : WInv w) (hw0 : w.bits = [])
    (hfuel : bsq.length < fuel) (hok : staticOK T edition { enforce := enforce } bsq = true)
    (hp : List.Forall₂ (PosOK k) bsq cols) (err : Bool) (r : R) (hI : RInv r) (pad : List Bool)
    (hb : r.bits = (cols.foldl putColumn w).bits ++ pad) :
    ∃ st', decodeCompressedLoop T edition s4max (⟨k + 1, 0, 0⟩ : Range) fuel
        { r := r, invalid := err, ddos := List.replicate (k + 1) { enforce := enforce },
          dones := List.replicate (k + 1) [], todos := List.replicate (k + 1) bsq } = .ok st' ∧
      st'.invalid = err ∧
      List.zipWith (fun d t => mkvalAll (d.reverse ++ t)) st'.dones st'.todos =
        (transposeDec k bsq cols).map mkvalAll ∧
      st'.r.bits = pad :=
  compressed_static_roundtrip T edition s4max enforce k fuel bsq cols w hIw hw0 hfuel hok hp err r hI pad hb

/-- **one position, compressed**: associated field, then numeric / character / no-data column -/
theorem C02_position (n : Node) (col : List Node) (hok : ColOK n col) (hns : n.flags.skipped = false)
    (r : R) (hI : RInv r) (tail : List Bool) (hb : r.bits = afColBits col ++ bodyColBits col ++ tail)
    (g : Range) (hfull : g.from_ ≤ 0) (hn : g.nsub = col.length) :
    ∃ r', readPosition r n (List.replicate col.length n) g = some (r', col.map (decElem n)) ∧
      r'.bits = tail ∧ RInv r' :=
  readPosition_roundtrip n col hok hns r hI tail hb g hfull hn

/-! ### Non-vacuity -/

def exNode (v : Int) : Node :=
  { desc := 12101, enc := { type := .numeric, scale := 0, ref := 0, nbits := 16, afNbits := 0 }, val := .i32 v }

/-- three subsets, one of them missing -/
example : ∀ n ∈ [exNode 300, exNode (-1), exNode 7], value2bits n ≤ missingIvalue 16 := by decide +kernel
example : encNumCol 16 ([exNode 300, exNode (-1), exNode 7].map value2bits) = (7, 9, [293, 511, 0]) := by
  decide +kernel
example : WInv (W.new 0) := WInv_new 0
/-- a column of three subsets at a 16-bit numeric position -/
example : ColOK { exNode 0 with val := .none } [exNode 300, exNode (-1), exNode 7] :=
  ⟨by simp, by decide, by decide, by decide, fun _ => by decide +kernel, fun h => by simp [exNode] at h⟩
example : (⟨3, 2, 3⟩ : Range).OK := Or.inr (by decide)
example : compressible [[exNode 1], [exNode 2, exNode 3]] = false := by decide +kernel
example : strDiffers [76, 73, 78, 90] [76, 73, 78, 90, 32, 32] 8 = false ∧ strDiffers [76, 73, 78, 90] [76, 73, 78, 90, 32, 72] 8 = true := by decide

end Bufr.C02
