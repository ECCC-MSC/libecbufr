import BufrProofs.Tables
/-
  C12 — Loaded tables are exactly what the files say; local entries override master.

  Model: BufrModel/Tables.lean, tied to bufr_tables.c / bufr_array.c / bufr_util.c by the `tbl.*`
  correspondence streams.  `bsearch`/`qsort` enter through `Libc.Contract`; every theorem below
  holds for any libc meeting it (`C12_glibc_contract`: the one the driver runs does).

  History: on the code as first examined three clauses failed (a local load after a lookup left a
  stale pointer in the lookup cache; loading into an already loaded set searched an array that was no
  longer sorted; `bufr_merge_tables` freed entries the cache pointed to).  They were repaired in the
  library (known_findings.json, status "fixed"); the model and the theorems below describe the
  repaired code, and the former witnesses are now positive examples.
-/
namespace Bufr.C12
open Bufr Bufr.Tbl

/-! ### concrete data for the non-vacuity examples -/

def eM : EntryB := { desc := 12101, scale := 2, ref := 0, nbits := 16, typ := .numeric, unit := "K", descr := "M" }

def eL : EntryB := { desc := 12101, scale := 3, ref := 0, nbits := 20, typ := .numeric, unit := "K", descr := "L" }

def e1 : EntryB := { desc := 1001, scale := 0, ref := 0, nbits := 7, typ := .numeric, unit := "N", descr := "B" }

def eA (d : Nat) : EntryB := { desc := d, scale := 1, ref := 0, nbits := 10, typ := .numeric, unit := "K", descr := "A" }

def eB (d : Nat) : EntryB := { desc := d, scale := 2, ref := 5, nbits := 12, typ := .numeric, unit := "M", descr := "B" }

theorem inv_empty : CacheInv #[] {} :=
  { mas := ⟨fun _ h => by simp at h, by simp [keysOf]⟩, loc := ⟨fun _ h => by simp at h, by simp [keysOf]⟩
    disj := fun _ h => by simp at h, cacheSorted := by simp [keysOf]
    cacheGood := fun _ h => by simp at h, lastGood := fun _ h => by simp at h }

/-- **parse-line**: a well-formed fixed-column Table B line (declarative reading `FixedColumns`:
fields by column slices, numbers as blank-padded decimal text) is turned by the loader into
exactly that entry, whatever the 256-byte line buffer held before. -/
theorem C12_parse_line (l junk : Bytes) (e : EntryB) (s : BRead) (hc : s.count = 6) (hcol : s.col = stdCols)
    (hdl : s.desclen = 44) (h : FixedColumns l e) :
    bLine true { s with buf := l ++ 10 :: 0 :: junk } =
      { s with buf := l ++ 10 :: 0 :: junk, out := e :: s.out } :=
  parse_line l junk e s hc hcol hdl h

/-- the shipped line for 0 12 101, read with the loader on its whole-file path -/
def line012101 : Bytes := asciiBytes
  "012101  TEMPERATURE/DRY-BULB TEMPERATURE            K            2          0    16"

example : (readTableB true (line012101 ++ [10])).1 =
    [{ desc := 12101, scale := 2, ref := 0, nbits := 16, typ := .numeric, unit := "K",
       descr := "TEMPERATURE/DRY-BULB TEMPERATURE" }] := by decide +kernel

/-- … and the hypotheses of `C12_parse_line` are satisfiable (negative reference, code table) -/
def line020003 : Bytes := asciiBytes
  "020003  PRESENT WEATHER                             CODE TABLE   0       -400     9"

example : FixedColumns line020003
    { desc := 20003, scale := 0, ref := -400, nbits := 9, typ := .codetable, unit := "CODE TABLE", descr := "PRESENT WEATHER" } := by
  have e : line020003 =
      [48, 50, 48, 48, 48, 51, 32, 32, 80, 82, 69, 83, 69, 78, 84, 32, 87, 69, 65, 84, 72, 69, 82] ++
      List.replicate 29 32 ++ [67, 79, 68, 69, 32, 84, 65, 66, 76, 69, 32, 32, 32, 48] ++
      List.replicate 7 32 ++ [45, 52, 48, 48, 32, 32, 32, 32, 32, 57] := by decide +kernel
  refine { len := ?_, clean := ?_, first := ?_, descF := by decide, descr := ?_, unit := ?_, typ := ?_
           desc := ⟨0, false, [48, 50, 48, 48, 48, 51], line020003.drop 6, ?_⟩
           scale := ⟨2, false, [48], line020003.drop 66, ?_⟩
           ref := ⟨7, true, [52, 48, 48], line020003.drop 77, ?_⟩
           nbits := ⟨4, false, [57], [], ?_⟩ }
  all_goals rw [e]; decide +kernel

/-- the libc routines the driver runs (`bsearchG`: glibc's binary search; `isort`: a stable sort)
satisfy the contracts every other theorem assumes -/
theorem C12_glibc_contract : glibc.Contract := glibc_contract

/-- **search**: on an array whose keys are strictly increasing (sorted, no duplicate), any
`bsearch` meeting the contract returns the pointer whose entry has the key if there is one, and
NULL iff there is none.  (Two equal keys inside one array — duplicates inside one file — are
outside this theorem: `bsearch` may then return either; see `unspecified` in props/c12.py.) -/
theorem C12_bsearch_sorted (L : Libc) (hL : L.Contract) (h : Heap) (arr : List Nat) (d : Nat)
    (hs : (keysOf h arr).Pairwise (· < ·)) :
    searchB L h arr d = findId h arr d ∧
    (∀ id, searchB L h arr d = some id → id ∈ arr ∧ keyOf h id = d) ∧
    (searchB L h arr d = none ↔ d ∉ keysOf h arr) := by
  have he := searchB_eq_findId L hL h arr d hs
  exact ⟨he, fun id hid => searchB_sound L hL h arr d id hid, by rw [he]; exact findId_eq_none_iff⟩

example : (keysOf #[some e1, some eM] [0, 1]).Pairwise (· < ·) := by decide
example : searchB glibc #[some e1, some eM] [0, 1] 12101 = some 1 := by decide
example : searchB glibc #[some e1, some eM] [0, 1] 12102 = none := by decide

/-- **lookup** (T-Cache): in any state satisfying the cache invariant — reached by whatever
sequence of lookups — `bufr_fetch_tableB` returns exactly what the specification `lookupSpec`
(local entry first, then master, nothing for F ∈ {1,2,3}) says about the loaded content, keeps
the invariant, and leaves the tables untouched. -/
theorem C12_lookup (L : Libc) (hL : L.Contract) (h : Heap) (t : BTables) (d : Nat) (hI : CacheInv h t) :
    (fetchB L h t d).1 = some (lookupSpec (contentB h t.loc.tableB) (contentB h t.master.tableB) d) ∧
    CacheInv h (fetchB L h t d).2 ∧
    (fetchB L h t d).2.master = t.master ∧ (fetchB L h t d).2.loc = t.loc :=
  fetchB_spec L hL h t d hI

/-- any number of lookups in a row: every one answers by the specification -/
theorem C12_lookup_history (L : Libc) (hL : L.Contract) (h : Heap) : ∀ (ds : List Nat) (t : BTables), CacheInv h t →
    ∀ d, ((ds.foldl (fun t d => (fetchB L h t d).2) t) |> fun t' => (fetchB L h t' d).1) =
      some (lookupSpec (contentB h t.loc.tableB) (contentB h t.master.tableB) d) := by
  intro ds
  induction ds with
  | nil => intro t hI d; exact (fetchB_spec L hL h t d hI).1
  | cons x rest ih =>
    intro t hI d
    obtain ⟨_, hI', hm, hl⟩ := fetchB_spec L hL h t x hI
    have := ih (fetchB L h t x).2 hI' d
    rw [hm, hl] at this
    exact this

/-- **local wins**: a descriptor present in the local table is answered from the local table -/
theorem C12_local_wins (loc mas : List EntryB) (d : Nat) (e : EntryB) (hF : ¬ isNonB d)
    (hl : findE loc d = some e) : lookupSpec loc mas d = some e := by
  unfold lookupSpec; simp [hF, hl]

/-- … and `bufr_fetch_tableB` returns it (corollary of `C12_lookup`) -/
theorem C12_local_wins_fetch (L : Libc) (hL : L.Contract) (h : Heap) (t : BTables) (d : Nat) (e : EntryB)
    (hI : CacheInv h t) (hF : ¬ isNonB d) (hl : findE (contentB h t.loc.tableB) d = some e) :
    (fetchB L h t d).1 = some (some e) := by
  rw [(C12_lookup L hL h t d hI).1, C12_local_wins _ _ d e hF hl]

/-- **absent is absent**: Table C/D/replication descriptors, and descriptors in neither table,
are reported as NULL -/
theorem C12_fetch_absent (L : Libc) (hL : L.Contract) (h : Heap) (t : BTables) (d : Nat) (hI : CacheInv h t)
    (hd : isNonB d ∨ (findE (contentB h t.loc.tableB) d = none ∧ findE (contentB h t.master.tableB) d = none)) :
    (fetchB L h t d).1 = some none := by
  rw [(C12_lookup L hL h t d hI).1]
  unfold lookupSpec
  rcases hd with hF | ⟨h1, h2⟩
  · simp [hF]
  · by_cases hF : isNonB d
    · simp [hF]
    · simp [hF, h1, h2]

/-- master loaded, then a local table overriding 0 12 101, *then* the first lookups: local wins -/
def stLM : Heap × BTables :=
  let a := loadBEntries glibc #[] {} .master (some [e1, eM]) (some 35)
  let b := loadBEntries glibc a.1 a.2.1 .loc (some [eL]) none
  (b.1, b.2.1)

example : (fetchB glibc stLM.1 stLM.2 12101).1 = some (some eL) := by decide
example : (fetchB glibc stLM.1 (fetchB glibc stLM.1 stLM.2 1001).2 12101).1 = some (some eL) := by decide
example : (fetchB glibc stLM.1 stLM.2 1001).1 = some (some e1) := by decide
example : (fetchB glibc stLM.1 stLM.2 101000).1 = some none := by decide
example : (fetchB glibc stLM.1 stLM.2 1002).1 = some none := by decide
example : lookupSpec (contentB stLM.1 stLM.2.loc.tableB) (contentB stLM.1 stLM.2.master.tableB) 12101 = some eL := by decide

/-- **first load**: loading a file whose entries have pairwise different descriptors into an empty
set gives a strictly sorted array holding exactly the file's entries, and touches nothing else. -/
theorem C12_load_first (L : Libc) (hL : L.Contract) (h : Heap) (t : BTables) (w : Which) (es : List EntryB)
    (ver : Option Int) (hnone : (t.get w).tableB = none) (hn : (es.map (·.desc)).Nodup) :
    ∃ h' arr, loadBEntries L h t w (some es) ver = (h', (flushT t).put w (newSet L h' arr (t.get w) ver), 0) ∧
      SetOK h' (some (sortB L h' arr)) ∧
      (∀ d, lookupArr h' (sortB L h' arr) d = findE es d) ∧
      (∀ x, x < h.size → deref h' x = deref h x) := by
  have hE := loadBEntries_some L h t w es ver
  rw [hnone] at hE
  obtain ⟨R, _⟩ := allocAll_spec es h hn
  obtain ⟨hS, hperm⟩ := sortB_ok L hL _ _ R.ok
  refine ⟨_, _, hE, hS, ?_, fun x hx => R.frame x hx (by simp)⟩
  intro d
  unfold lookupArr
  rw [findId_perm R.ok.nodupKeys hperm d]
  have := R.look d
  unfold lookupArr at this
  rw [this]
  cases findE es d <;> simp [findId]

example : (loadBEntries glibc #[] {} .master (some [eM, e1]) (some 35)).2.1.master.tableB = some [1, 0] := by decide

/-- **merge keeps the union, the newer file wins**: `bufr_merge_tableB` — the body of a load into an
already loaded set and of the local part of `bufr_merge_tables` — applied to a strictly sorted
array and a file with pairwise different descriptors yields an array whose lookup function is the
right-biased union of the two, with no duplicate key, strictly sorted again.  (The array is re-sorted
after every append, so each `bsearch` of the loop runs on a sorted array.) -/
theorem C12_merge_union (L : Libc) (hL : L.Contract) (es : List EntryB) (h : Heap) (arr : List Nat)
    (hlive : AllLive h arr) (hsorted : (keysOf h arr).Pairwise (· < ·)) (hn : (es.map (·.desc)).Nodup) :
    let r := mergeB L h arr es
    (∀ d, lookupArr r.1 r.2 d = match findE es d with | some e => some e | none => lookupArr h arr d) ∧
    (∀ d, d ∈ keysOf r.1 r.2 ↔ d ∈ keysOf h arr ∨ d ∈ es.map (·.desc)) ∧
    (keysOf r.1 r.2).Pairwise (· < ·) ∧ AllLive r.1 r.2 := by
  intro r
  obtain ⟨R, hS⟩ := mergeB_spec L hL es h arr hlive hsorted hn
  refine ⟨R.look, ?_, hS, R.ok.live⟩
  intro d
  have key : ∀ (hh : Heap) (a : List Nat), AllLive hh a → (d ∈ keysOf hh a ↔ lookupArr hh a d ≠ none) := by
    intro hh a hl
    rw [Ne, lookupArr_none_iff hl, findId_eq_none_iff, Decidable.not_not]
  rw [key _ _ R.ok.live, key _ _ hlive, R.look d]
  cases hf : findE es d with
  | none =>
    simp only
    have hnot : d ∉ es.map (·.desc) := by
      intro hm
      unfold findE at hf; rw [List.find?_eq_none] at hf
      obtain ⟨x, hx, hxd⟩ := List.mem_map.mp hm
      exact hf x hx (by simp [hxd])
    exact ⟨fun hx => Or.inl hx, fun hx => hx.elim id (fun h2 => absurd h2 hnot)⟩
  | some e =>
    simp only
    refine ⟨fun _ => Or.inr ?_, fun _ hcontra => by cases hcontra⟩
    unfold findE at hf
    have hd : e.desc = d := by simpa using List.find?_some hf
    rw [← hd]; exact List.mem_map_of_mem (List.mem_of_find?_eq_some hf)

def hA4 : Heap := #[some (eA 10001), some (eA 10002), some (eA 10003), some (eA 10004)]

def file2 : List EntryB := [eB 1001, eB 1002, eB 1003, eB 1004, eB 10004]

/-- the former counter-example (new descriptors first, then an override of the largest existing one):
the override now replaces the old entry -/
example : (let r := mergeB glibc hA4 [0, 1, 2, 3] file2
           (searchB glibc r.1 r.2 10004).bind (deref r.1) = some (eB 10004) ∧ (keysOf r.1 r.2).Nodup ∧
           keysOf r.1 r.2 = [1001, 1002, 1003, 1004, 10001, 10002, 10003, 10004]) := by decide
example : (keysOf hA4 [0, 1, 2, 3]).Pairwise (· < ·) ∧ (file2.map (·.desc)).Nodup := by decide

/-- **operations keep the invariant**: a lookup, a load into the master set and a load into the local
set (file entries with pairwise different descriptors) all keep `CacheInv`; after a load the table
loaded into is the right-biased union of its previous content and the file, and the other table is
unchanged.  Together with `C12_lookup` this gives: after *any* interleaving of loads and lookups,
every lookup answers by the specification of the content loaded so far. -/
theorem C12_ops_preserve_inv (L : Libc) (hL : L.Contract) (h : Heap) (t : BTables) (hI : CacheInv h t) :
    (∀ d, CacheInv h (fetchB L h t d).2) ∧
    (∀ es ver, (es.map (·.desc)).Nodup →
      ∃ h' t', loadBEntries L h t .master (some es) ver = (h', t', 0) ∧ CacheInv h' t' ∧
        (∀ d, lookupArr h' (t'.master.tableB.getD []) d =
          match findE es d with | some e => some e | none => lookupArr h (t.master.tableB.getD []) d) ∧
        (∀ d, lookupArr h' (t'.loc.tableB.getD []) d = lookupArr h (t.loc.tableB.getD []) d)) ∧
    (∀ es ver, (es.map (·.desc)).Nodup →
      ∃ h' t', loadBEntries L h t .loc (some es) ver = (h', t', 0) ∧ CacheInv h' t' ∧
        (∀ d, lookupArr h' (t'.loc.tableB.getD []) d =
          match findE es d with | some e => some e | none => lookupArr h (t.loc.tableB.getD []) d) ∧
        (∀ d, lookupArr h' (t'.master.tableB.getD []) d = lookupArr h (t.master.tableB.getD []) d)) :=
  ⟨fun d => (fetchB_spec L hL h t d hI).2.1,
   fun es ver hn => loadB_master_preserves L hL h t es ver hI hn,
   fun es ver hn => loadB_loc_preserves L hL h t es ver hI hn⟩

/-- the state after "load master, look up 0 12 101" -/
def stFetched : Heap × BTables :=
  let a := loadBEntries glibc #[] {} .master (some [e1, eM]) (some 35)
  (a.1, (fetchB glibc a.1 a.2.1 12101).2)

theorem stFetched_inv : CacheInv stFetched.1 stFetched.2 := by
  obtain ⟨h', t', heq, hI, _, _⟩ :=
    loadB_master_preserves glibc glibc_contract #[] {} [e1, eM] (some 35) inv_empty (by decide)
  have h1 : stFetched.1 = h' := by
    have : (loadBEntries glibc #[] {} .master (some [e1, eM]) (some 35)).1 = h' := by rw [heq]
    exact this
  have h2 : (loadBEntries glibc #[] {} .master (some [e1, eM]) (some 35)).2.1 = t' := by rw [heq]
  unfold stFetched
  simp only
  rw [h2, show (loadBEntries glibc #[] {} .master (some [e1, eM]) (some 35)).1 = h' from by rw [heq]]
  exact (fetchB_spec glibc glibc_contract h' t' 12101 hI).2.1

/-- the former counter-example (DESIGN §10 #15): master loaded, 0 12 101 looked up, *then* a local
table overriding it is loaded: the next lookups return the local entry -/
example : (let r := loadBEntries glibc stFetched.1 stFetched.2 .loc (some [eL]) none
           (fetchB glibc r.1 r.2.1 12101).1 = some (some eL) ∧
           (fetchB glibc r.1 (fetchB glibc r.1 r.2.1 1001).2 12101).1 = some (some eL) ∧
           r.2.1.cache = none ∧ r.2.1.last = none) := by decide
example : stFetched.2.last = some 1 ∧ stFetched.2.cache = some [1] := by decide

/-- **`bufr_merge_tables`**: for two objects owning different entries (as any two objects created and
loaded separately do), whatever has been looked up before, the result satisfies `CacheInv`; its local
table is the right-biased union (source wins), its master table is the source's if the source has one. -/
theorem C12_merge_tables (L : Libc) (hL : L.Contract) (h : Heap) (dst src : BTables)
    (hI : CacheInv h dst)
    (hsm : SetOK h src.master.tableB) (hsl : SetOK h src.loc.tableB)
    (hsep1 : ∀ x ∈ dst.master.tableB.getD [], x ∉ src.master.tableB.getD [] ∧ x ∉ src.loc.tableB.getD [])
    (hsep2 : ∀ x ∈ dst.loc.tableB.getD [], x ∉ src.master.tableB.getD []) :
    CacheInv (mergeTables L h dst src).1 (mergeTables L h dst src).2 ∧
    (∀ d, lookupArr (mergeTables L h dst src).1 ((mergeTables L h dst src).2.loc.tableB.getD []) d =
      match lookupArr h (src.loc.tableB.getD []) d with
      | some e => some e
      | none => lookupArr h (dstLocal dst) d) ∧
    (∀ d, lookupArr (mergeTables L h dst src).1 ((mergeTables L h dst src).2.master.tableB.getD []) d =
      lookupArr h (mergedMaster dst src) d) :=
  mergeTables_preserves L hL h dst src hI hsm hsl hsep1 hsep2

/-- two objects, neither looked into: dst (master 1001,12101; local 12101) ← src (master 1001; local 10004) -/
def stTwo : Heap × BTables × BTables :=
  let a := loadBEntries glibc #[] {} .master (some [e1, eM]) (some 35)
  let b := loadBEntries glibc a.1 a.2.1 .loc (some [eL]) none
  let c := loadBEntries glibc b.1 {} .master (some [e1]) (some 36)
  let d := loadBEntries glibc c.1 c.2.1 .loc (some [eA 10004]) none
  (d.1, b.2.1, d.2.1)

example : (fetchB glibc (mergeTables glibc stTwo.1 stTwo.2.1 stTwo.2.2).1 (mergeTables glibc stTwo.1 stTwo.2.1 stTwo.2.2).2 12101).1
    = some (some eL) := by decide
example : (fetchB glibc (mergeTables glibc stTwo.1 stTwo.2.1 stTwo.2.2).1 (mergeTables glibc stTwo.1 stTwo.2.1 stTwo.2.2).2 10004).1
    = some (some (eA 10004)) := by decide
example : (mergeTables glibc stTwo.1 stTwo.2.1 stTwo.2.2).2.master.version = 36 := by decide

/-- the former use-after-free: object 0 has looked up 0 12 101, then an object holding a master
Table B is merged into it: the cache is dropped with the freed entries, lookups go to the new tables -/
example : (let src := (loadBEntries glibc stFetched.1 {} .master (some [e1]) (some 36))
           let m := mergeTables glibc src.1 stFetched.2 src.2.1
           (fetchB glibc m.1 m.2 1001).1 = some (some e1) ∧ (fetchB glibc m.1 m.2 12101).1 = some none) := by
  decide

/-- **version**: if tables with master version `v` are in the list, `bufr_use_tables_list` returns
tables with exactly that version (the first such) -/
theorem C12_version_exact (versions : List Int) (v : Int) (hv : v ∈ versions) :
    ∃ i, useTablesList versions v = some i ∧ versions[i]? = some v := by
  obtain ⟨j, h1, h2⟩ := useListGo_exact v versions 0 none none hv
  exact ⟨j, by unfold useTablesList; rw [h1]; simp, h2⟩

example : useTablesList [13, 31, 32, 35] 32 = some 2 := by decide
example : useTablesList [13, 31, 32, 35] 33 = some 3 := by decide   -- otherwise: the highest above
example : useTablesList [13, 31, 32, 35] 40 = some 3 := by decide   -- or the highest below
example : useTablesList [] 13 = none := by decide

/-- **a circular or incomplete Table D is reported**: if `bufr_check_loop_tableD` returns 0 then
every member of every entry of the checked set expands finitely and completely (`Good`), hence
lies on no cycle and reaches none.  Contrapositive: a cycle (or an undefined sequence) reachable
from the set makes the load return a negative code. -/
theorem C12_checkloop_reports (L : Libc) (t : BTables) (arr : List EntryD) :
    (checkLoop L t (some arr) = 0 → ∀ e ∈ arr, ∀ m ∈ e.members, Good L t m) ∧
    (∀ e ∈ arr, ∀ m ∈ e.members, ∀ x, (x = m ∨ Reach L t m x) →
      (Reach L t x x ∨ (fOf x = 3 ∧ fetchD L t x = none)) → checkLoop L t (some arr) ≠ 0) := by
  refine ⟨checkLoop_zero_good L t arr, ?_⟩
  intro e he m hm x hx hbad h0
  have hg := checkLoop_zero_good L t arr h0 e he m hm
  have hgx : Good L t x := by
    rcases hx with rfl | hr
    · exact hg
    · exact Good_reach hr hg
  rcases hbad with hcyc | ⟨hf, hnone⟩
  · exact Good_acyclic hgx hcyc
  · cases hgx with
    | nonD _ hn => exact hn hf
    | seq _ e' hf' _ => rw [hnone] at hf'; cases hf'

def dCyc : List EntryD := [{ desc := 363001, members := [363002, 1001] }, { desc := 363002, members := [363001] }]

def tCyc : BTables := { loc := { tableD := some dCyc, ownsD := true } }
example : checkLoop glibc tCyc (some dCyc) = -2 := by decide
example : checkLoop glibc { loc := { tableD := some [{ desc := 363001, members := [363001] }] } }
    (some [{ desc := 363001, members := [363001] }]) = -1 := by decide    -- a self-loop alone is reported as −1
example : Reach glibc tCyc 363002 363002 :=
  Reach.trans _ 363001 _ (Reach.step _ ⟨363002, [363001]⟩ _ (by decide) (by decide))
    (Reach.step _ ⟨363001, [363002, 1001]⟩ _ (by decide) (by decide))

/-- **an acyclic, complete Table D is accepted** (partial): if the sequences can be ranked so that
members rank strictly lower, and every sequence member of the checked set is defined, the check
returns 0.  Partial because the ranks are assumed to fit the recursion fuel the model supplies
(`loopFuel` = number of entries + 2); that a ranking with such ranks always exists for an acyclic
table (pigeonhole on the path) is not proved here — for the shipped tables it is checked
(`Generated/ShippedD.lean`, maximal rank 6). -/
theorem C12_checkloop_accepts_partial (L : Libc) (t : BTables) (r : Nat → Nat) (arr : List EntryD)
    (hr : ∀ d e, fetchD L t d = some e → ∀ m ∈ e.members, fOf m = 3 → (fetchD L t m).isSome = true ∧ r m < r d)
    (hdef : ∀ e ∈ arr, ∀ m ∈ e.members, fOf m = 3 → (fetchD L t m).isSome = true)
    (hb : ∀ d, r d + 1 < loopFuel t) : checkLoop L t (some arr) = 0 :=
  checkLoop_accepts L t r arr hr hdef hb

def dOk : List EntryD := [{ desc := 301001, members := [1001, 1002] }, { desc := 301002, members := [301001, 4001] },
                          { desc := 301003, members := [301002, 301001] }]
example : checkLoop glibc { master := { tableD := some dOk } } (some dOk) = 0 := by decide

end Bufr.C12
