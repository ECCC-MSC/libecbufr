import BufrProofs.Codec
import BufrProofs.CodecDynamic
import BufrProofs.Bitmap
import BufrProofs.BitmapCompressed
/-
  C01 — Encode then decode returns every value and the subset structure unchanged.

  Model: BufrModel/Codec.lean (`encodeData`, `putDescValue`) and BufrModel/Decode.lean
  (`decodeUncompressed`, `decodeSubsetLoop`, `getDescValue`), tied to bufr_dataset.c by the
  `ds.encode` / `ds.decode` correspondence streams (props/c01.py).

  What is proved at full strength: for *static* templates (no delayed replication, no 2 03 — any
  tables, any other operators, any fixed replication, any number of subsets, any values) the
  decoder walks exactly the layout the encoder wrote and reads each value from exactly the bits it
  was written to (`C01_static_roundtrip`, `C01_layout_rederived`, `C01_element`).  What the bits of
  one element decode to, per element kind, is `C01_raw_bits` (and BufrProofs/CodecValues.lean).

  Delayed replication and 2 03: `C01_dynamic_subset` / `C01_dynamic_roundtrip` /
  `C01_dynamic_positions` hold for *every* template.  Their hypothesis is a bit-free, computable walk
  (`walk`, `walkAll` in BufrProofs/CodecDynamic.lean) that makes the decoder's structural decisions
  (Table C application, expansion at each factor, the Section 4 size guard, the 2 03 state) from the
  encoder's nodes: whenever it goes through, the real decoder fed the encoder's bits follows it, reads
  every data-bearing position from exactly the bits its value was written to, and flags nothing.
  That the walk goes through for every dataset the API can build is *not* proved (it is the statement
  that `bufr_expand_datasubset` and the decoder's expansion produce the same lists); it is evaluated
  by `decide +kernel` on the instance below (nested delayed replication, a zero count, 2 03) and
  tied by the correspondence streams and the oracle.
-/
namespace Bufr.C01
open Bufr

/-- **C01, static templates.**  `bsq` is the decoder's template copy, `ss` the subsets to encode
(one node list per subset, position for position the same layout: `pairsb`).  Decoding the
uncompressed encoding gives back `ss.length` subsets, each the list `bsq` with every data-bearing
position `n` holding `readBack n m` — the value read from exactly the bits `m`'s value was written to —
and the dataset is not flagged invalid. -/
theorem C01_static_roundtrip (T : Tables) (edition : Nat) (enforce : Enforce) (fuel s4max : Nat)
    (bsq : List Node) (nbitsSeq : Int) (ss : List (List Node)) (dataFlag : Nat)
    (hfuel : bsq.length < fuel) (hok : staticOK T edition { enforce := enforce } bsq = true)
    (hp : ∀ ms ∈ ss, pairsb bsq ms = true) :
    ∃ st', decodeUncompressed T edition enforce fuel s4max bsq nbitsSeq true 0 0 ss.length 0
        { r := R.ofBytes (padSection4 edition (encodeData ss dataFlag 0).2).bytes, invalid := false } [] =
        .ok (st', ss.map (fun ms => mkvalAll (List.zipWith readBack' bsq ms))) ∧ st'.invalid = false :=
  encode_decode_static T edition enforce fuel s4max bsq nbitsSeq ss dataFlag hfuel hok
    (fun ms h => pairs_of_b bsq ms (hp ms h))

/-- same number of subsets, same number of positions in each -/
theorem C01_structure (bsq : List Node) (ss : List (List Node)) (hp : ∀ ms ∈ ss, pairsb bsq ms = true) :
    (ss.map (fun ms => mkvalAll (List.zipWith readBack' bsq ms))).length = ss.length ∧
    ∀ s ∈ ss.map (fun ms => mkvalAll (List.zipWith readBack' bsq ms)), s.length = bsq.length := by
  refine ⟨by simp, ?_⟩
  intro s hs
  obtain ⟨ms, hms, rfl⟩ := List.mem_map.mp hs
  have := forall2_length (pairs_of_b bsq ms (hp ms hms))
  simp [mkvalAll, this]

/-- **the decoder re-derives the encoder's layout**: the decoder's template copy is, node by node,
a fixed point of a second pass of Table C application (the pass the decode loop makes), as soon as
the template raises no operator error and holds no 2 03 definition and no delayed replication -/
theorem C01_layout_rederived (T : Tables) (edition : Nat) (ddo : DDO) (ns : List Node)
    (h : plainOK T edition ddo (applyTablesAll T edition ddo ns).1 = true) :
    staticOK T edition ddo (applyTablesAll T edition ddo ns).1 = true :=
  staticOK_of_applied T edition ns ddo h

/-- **one element**: whatever the encoder node `m` holds, a decoder node of the same layout reads
`readBack n m` from its bits and leaves the cursor at the next element -/
theorem C01_element (r : R) (hI : RInv r) (n m : Node) (rest : List Bool) (hl : SameLayout n m)
    (hns : m.flags.skipped = false) (hw : widthOK m) (hb : r.bits = nodeBits m ++ rest) :
    ∃ r', getDescValue r n = some (r', readBack n m) ∧ r'.bits = rest ∧ RInv r' :=
  getDescValue_view r hI n m rest hl hns hw hb

/-- code and flag tables, and integers without scale or reference: the decoded raw bits are the
encoder's raw bits whenever those fit the width (they do for every value below the all-ones
pattern); character data come back as the blank-padded octets that were written -/
theorem C01_raw_bits (n m : Node) (h : (mkvalNode n).enc.afNbits = 0 ∨ (mkvalNode n).afW = 0)
    (ht : (mkvalNode n).enc.type = .codetable ∨ (mkvalNode n).enc.type = .flagtable ∨
          (mkvalNode n).enc.type = .numeric ∨ (mkvalNode n).enc.type = .chngRef) :
    (readBack n m).val = valueOfBits (mkvalNode n) (mkvalNode n).val
      (valueBits m % 2^(mkvalNode n).enc.nbits.toNat) := by
  unfold readBack
  have hno : ¬ ((mkvalNode n).enc.afNbits > 0 ∧ (mkvalNode n).afW > 0) := by omega
  simp only [hno, if_false]
  rcases ht with h | h | h | h <;> simp [h]

/-- **C01, any template, one subset.**  `walk` makes the decisions of the decode loop from the
encoder's nodes `ms` alone.  If it reaches the end, the decoder — started anywhere (`done`, `todo`,
operator state `ddo`) on the bits the encoder wrote for `ms` — returns the very list the walk
computed, reports the subset complete, leaves the dataset's flag as it was and stops on the first bit
after the subset. -/
theorem C01_dynamic_subset (T : Tables) (edition s4max fuel : Nat) (ddo : DDO) (st : DecSt)
    (done todo ms out : List Node) (rest : List Bool)
    (h : walk T edition s4max st.s4len fuel ddo done todo ms = some out)
    (hI : RInv st.r) (hb : st.r.bits = ms.flatMap nodeBits ++ rest) :
    ∃ r', decodeSubsetLoop T edition s4max fuel ddo st done todo = .ok ({ st with r := r' }, out, .complete) ∧
      r'.bits = rest ∧ RInv r' :=
  decodeSubsetLoop_walk T edition s4max fuel ddo st done todo ms out rest h hI hb

/-- **C01, any template, whole message.**  Decoding the uncompressed encoding of the subsets `ss`
returns the subsets the walk computed — as many as were encoded — and the dataset is not flagged
invalid. -/
theorem C01_dynamic_roundtrip (T : Tables) (edition : Nat) (enforce : Enforce) (fuel s4max : Nat)
    (bsq : List Node) (nbitsSeq : Int) (lenConst : Bool) (ss outs : List (List Node)) (dataFlag : Nat)
    (h : walkAll T edition enforce s4max fuel bsq lenConst nbitsSeq 0 ss = some outs) :
    ∃ st', decodeUncompressed T edition enforce fuel s4max bsq nbitsSeq lenConst 0 0 ss.length 0
        { r := R.ofBytes (padSection4 edition (encodeData ss dataFlag 0).2).bytes, invalid := false } [] =
        .ok (st', outs) ∧ st'.invalid = false :=
  encode_decode_walk T edition enforce fuel s4max bsq nbitsSeq lenConst ss outs dataFlag h

/-- **what each decoded position holds**: the walk's result is the nodes already done followed by one
node per encoder node, each the decoder's own node (descriptor and encoding as Table C application
derived them) with the value `readBack'` reads from the bits of the facing encoder node.  The one
exception is the library's: a replication factor that arrives without a usable value (missing) is
given the value 0 by the expansion. -/
theorem C01_dynamic_positions (T : Tables) (edition s4max : Nat) (s4len : Int) (fuel : Nat) (ddo : DDO)
    (done todo ms out : List Node) (h : walk T edition s4max s4len fuel ddo done todo ms = some out) :
    ∃ tail, out = done.reverse ++ tail ∧ List.Forall₂ Reads tail ms :=
  walk_reads T edition s4max s4len fuel ddo done todo ms out h

/-- **the decoder the correspondence runs (`decodeDataB`: `bufr_decode_message_subsets` with the data
present bit-map head of `bufr_apply_tables2node`) is the decoder the theorems above are about
(`decodeData`)**, for uncompressed and compressed data, whenever neither the template nor any
Table D sequence holds a 2 36 YYY operator or a class 33 element (`QuietTables`; the closure of such
node lists under template expansion and under the decoder's on-the-fly expansion of delayed
replications is proved, `quiet_ok`, `qclosed_of_quietTables`; the compressed lock-step loop keeps
an invariant over all subset copies, `decodeCompressedLoopB_quiet`) — i.e. on every template of
this property's quantifier. -/
theorem C01_bitmap_head_inert (T : Tables) (hT : QuietTables T) (fuel : Nat) (t : Template)
    (ht : ∀ n ∈ t.gabarit, quietNode n = true) (enforce : Enforce) (nsub : Nat) (compressed : Bool)
    (s4max : Nat) (data : List Nat) (from0 to0 : Int) :
    decodeDataB T fuel t enforce nsub compressed s4max data from0 to0 =
      decodeData T fuel t enforce nsub compressed s4max data from0 to0 :=
  decodeDataB_quiet T fuel t enforce nsub compressed s4max data from0 to0 (qclosed_of_quietTables T hT)
    (fun bsq0 h => expandSequence_quiet T hT fuel _ t.gabarit bsq0 ht h)

/-- the dataset-building side: `bufr_create_datasubset` / `bufr_expand_datasubset` with the bit-map
head (what the correspondence runs) are the functions the theorems are about, under the same
condition -/
theorem C01_bitmap_head_inert_build (T : Tables) (hT : QuietTables T) (fuel : Nat) (t : Template)
    (ht : ∀ n ∈ t.gabarit, quietNode n = true) :
    createDatasubsetB T fuel t = createDatasubset T fuel t ∧
    (∀ s : Subset, (∀ n ∈ s.nodes, quietNode n = true) → expandDatasubsetB T fuel t s = expandDatasubset T fuel t s) :=
  ⟨createDatasubsetB_quiet T hT fuel t ht, fun s hs => expandDatasubsetB_quiet T hT fuel t s hs⟩

/-- the subset loop itself, for any template: while no bit-map operator is met the loop with the
bit-map head *is* the plain loop -/
theorem C01_subset_loop_head_inert (T : Tables) (edition s4max : Nat) (hT : QClosed T)
    (fuel : Nat) (ddo : DDO) (st : DecSt) (done todo : List Node)
    (hd : quietDDO ddo) (hq : ∀ x ∈ todo, quietNode x = true) :
    decodeSubsetLoopB T edition s4max fuel ddo {} st done todo =
      liftB (decodeSubsetLoop T edition s4max fuel ddo st done todo) :=
  decodeSubsetLoopB_quiet T edition s4max hT fuel ddo st done todo hd hq

/-! ### Non-vacuity -/

def exT : Tables :=
  { fetchB := fun d =>
      if d = 7002 then some { desc := 7002, scale := -1, ref := -40, nbits := 16, typ := .numeric }
      else if d = 12101 then some { desc := 12101, scale := 2, ref := 0, nbits := 16, typ := .numeric }
      else if d = 1015 then some { desc := 1015, scale := 0, ref := 0, nbits := 160, typ := .ccitt }
      else if d = 20003 then some { desc := 20003, scale := 0, ref := 0, nbits := 9, typ := .codetable }
      else if d = 31021 then some { desc := 31021, scale := 0, ref := 0, nbits := 6, typ := .codetable }
      else none,
    fetchD := fun _ => none }

/-- 2 07 on a negative reference, 2 01 with 2 02, a 7-bit associated field over numeric, character
and code elements, 2 08 -/
def exSeq : List Nat :=
  [207002, 7002, 207000, 201130, 202129, 12101, 202000, 201000, 204007, 31021, 12101, 1015, 20003, 204000,
   208003, 1015, 208000, 7002]

def exBsq : List Node := (applyTablesAll exT 4 { enforce := .strict } (exSeq.map (mkNode exT))).1

/-- a subset: every data position given a value of its own type -/
def exFill (k : Int) (n : Node) : Node :=
  let m := mkvalNode n
  match m.val with
  | .i32 _ => { m with val := .i32 k, afBits := 5 }
  | .i64 _ => { m with val := .i64 k, afBits := 5 }
  | .f64 _ => { m with val := .f64 (.fin k), afBits := 5 }
  | .str bs => { m with val := .str (bs.map fun _ => 65), afBits := 5 }
  | _ => m

example : staticOK exT 4 { enforce := .strict } exBsq = true := by decide +kernel
example : plainOK exT 4 { enforce := .strict } exBsq = true := by decide +kernel
example : pairsb exBsq (exBsq.map (exFill 3)) = true ∧ pairsb exBsq (exBsq.map (exFill 17)) = true := by
  decide +kernel
example : exBsq.length < 100 := by decide +kernel

/-! #### a template with nested delayed replication, a zero count and a 2 03 redefinition -/

def dT : Tables :=
  { fetchB := fun d =>
      if d = 7002 then some { desc := 7002, scale := -1, ref := -40, nbits := 16, typ := .numeric }
      else if d = 12101 then some { desc := 12101, scale := 2, ref := 0, nbits := 16, typ := .numeric }
      else if d = 1015 then some { desc := 1015, scale := 0, ref := 0, nbits := 160, typ := .ccitt }
      else if d = 20003 then some { desc := 20003, scale := 0, ref := 0, nbits := 9, typ := .codetable }
      else if d = 31001 then some { desc := 31001, scale := 0, ref := 0, nbits := 8, typ := .numeric }
      else if d = 31002 then some { desc := 31002, scale := 0, ref := 0, nbits := 16, typ := .numeric }
      else none,
    fetchD := fun _ => none }

/-- 1 04 000 over (0 12 101, 1 01 000 0 31 002 0 20 003); then 2 03 010 … 2 03 255 redefining 0 12 101 -/
def dSeq : List Nat := [7002, 104000, 31001, 12101, 101000, 31002, 20003, 203010, 12101, 203255, 12101, 203000, 1015]

def dFuel : Nat := 300

def dTmpl : Option Template := match createTemplate dT dFuel 4 dSeq with | .ok t => some t | _ => none

/-- set the factors not yet used for an expansion, in order (what an application does between
`bufr_create_datasubset` and `bufr_expand_datasubset`) -/
def setFactors (vs : List Nat) (ns : List Node) : List Node :=
  (ns.foldl (fun (acc : List Node × Nat) (n : Node) =>
    if isClass31Factor n.desc && n.flags.class31 && !n.expanded && !n.skipped && n.hasVal then
      (acc.1 ++ [{ n with val := n.val.setInt32 (vs.getD (acc.2 % vs.length) 0) }], acc.2 + 1)
    else (acc.1 ++ [n], acc.2)) ([], 0)).1

def dFill (k : Int) (n : Node) : Node :=
  if n.flags.class31 || n.flags.skipped then n else
  match n.val with
  | .i32 _ => { n with val := .i32 k }
  | .i64 _ => { n with val := .i64 k }
  | .f64 _ => { n with val := .f64 (.fin (10 * k)) }
  | .str bs => { n with val := .str (bs.map fun _ => 65) }
  | _ => n

/-- the subset as the library's own calls build it: create, set the outer factor, expand, set the
inner factors, expand, fill, settle the new reference values (first step of the encoder) -/
def dSubset (outer : Nat) (inner : List Nat) (k : Int) : Option (List Node) :=
  match dTmpl with
  | none => none
  | some t =>
    match createDatasubset dT dFuel t with
    | .ok (s0, false) =>
      match expandDatasubset dT dFuel t { nodes := setFactors [outer] s0.nodes } with
      | .ok (s1, false) =>
        match expandDatasubset dT dFuel t { nodes := setFactors inner s1.nodes } with
        | .ok (s2, false) => some (settleNewRefs dT 4 (s2.nodes.map (dFill k))).1
        | _ => none
      | _ => none
    | _ => none

/-- the decoder's template copy, as `decodeData` derives it -/
def dBsq : Option (List Node) :=
  match dTmpl with
  | none => none
  | some t =>
    match expandSequence dT dFuel (OP_EXPAND_DELAY_REPL ||| OP_ZDRC_SKIP) t.gabarit with
    | .ok b => some (applyTablesAll dT 4 { enforce := .strict } b).1
    | _ => none

/-- a value as plain numbers (the kernel compares these directly) -/
def valKey : Val → Nat × List Int × List Nat
  | .none => (0, [], [])
  | .i32 v => (1, [v], [])
  | .i64 v => (2, [v], [])
  | .f32 (.fin q) => (3, [q.num, q.den], [])
  | .f32 .nan => (3, [], [0])
  | .f32 (.inf true) => (3, [], [2])
  | .f32 (.inf false) => (3, [], [1])
  | .f64 (.fin q) => (4, [q.num, q.den], [])
  | .f64 .nan => (4, [], [0])
  | .f64 (.inf true) => (4, [], [2])
  | .f64 (.inf false) => (4, [], [1])
  | .str bs => (5, [], bs)

/-- `valKey` loses nothing, so comparing keys in `dCheck` is comparing values -/
theorem valKey_inj (a b : Val) (h : valKey a = valKey b) : a = b := by
  rcases a with _ | v | v | (q | _ | (_ | _)) | (q | _ | (_ | _)) | bs <;>
  rcases b with _ | v' | v' | (q' | _ | (_ | _)) | (q' | _ | (_ | _)) | bs' <;>
  simp [valKey] at h ⊢
  -- the diagonal is left: the two integer kinds, the finite reals of either precision, strings
  · exact h
  · exact h
  · exact Rat.ext h.1 h.2
  · exact Rat.ext h.1 h.2
  · exact h

/-- three subsets of different shapes (outer count 2 with inner counts 3 and 0; outer count 0; outer
count 1 with inner count 2): the walk goes through, and every position comes back with the descriptor
and the value that were encoded -/
def dCheck : Bool :=
  match dBsq, dSubset 2 [3, 0] 7, dSubset 0 [] 9, dSubset 1 [2] 11 with
  | some b, some s1, some s2, some s3 =>
    ((walkAll dT 4 .strict 1000 dFuel b true 0 0 [s1, s2, s3]).map
        (fun (o : List (List Node)) => o.map (fun (s : List Node) => s.map (fun (n : Node) => (n.desc, valKey n.val)))) ==
      some ([s1, s2, s3].map (fun (s : List Node) => s.map (fun (n : Node) => (n.desc, valKey n.val))))) &&
    decide (s1.length = 19 ∧ s2.length = 13 ∧ s3.length = 14)
  | _, _, _, _ => false

example : dCheck = true := by decide +kernel

end Bufr.C01
