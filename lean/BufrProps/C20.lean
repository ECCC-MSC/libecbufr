import BufrProofs.LocalTables
import BufrProps.C06
/-
  C20 — Local table update messages round-trip the tables they carry.

  Model: BufrModel/LocalTables.lean (`store`, `extract`, `mergeLocal`, `tablesOf`), tied to
  bufr_local.c by the `lt.*` correspondence streams (props/c20.py).  The model describes the code
  with the five C20 repairs (known_findings.json).

  The round trip is a chain: the writer (Section 4 is the items of the table set), the reference decoder of
  BufrSpec.RefDecode (reads them back under the Section 3 written), the walk of `bufr_extract_tables` (returns the table
  set as `carried`), each printed field inverted by its parser; `C20_roundtrip_partial` composes them with the framing
  of C06.  `store_extract` puts the model of `bufr_decode_message` in the reference decoder's place, given what it
  returns on the message written; the examples at the end evaluate that.
-/
namespace Bufr.C20
open Bufr Bufr.LT Bufr.Tbl Bufr.Frame

/-- **numbers**: `%<w>d` and `%.<w>d` fill their field and `atoi` reads the value back -/
theorem C20_fields_number (w v : Nat) (h : v < 10 ^ w) (hw : 0 < w) (hi : v ≤ 2147483647) :
    (fmtBlank w v).length = w ∧ (fmtZero w v).length = w ∧
    atoi (fmtBlank w v) = v ∧ atoi (fmtZero w v) = v :=
  ⟨fmtBlank_length w v, fmtZero_length w v, atoi_fmtBlank w v h hw hi, atoi_fmtZero w v h hw hi⟩

/-- **sign and magnitude**: scale (−999..999, three digits through `atoi`) and reference (every
`int`, −2147483648 included, ten digits through `atoll`) come back from their sign character
and magnitude field -/
theorem C20_fields_signed (s r : Int) (hs : s.natAbs ≤ 999) (hr1 : -2147483648 ≤ r) (hr2 : r ≤ 2147483647) :
    wrap32 ((if [signChar s].head? = some 45 then (-1 : Int) else 1) * atoi (fmtBlank 3 s.natAbs)) = s ∧
    wrap32 ((if [signChar r].head? = some 45 then (-1 : Int) else 1) * atoll (fmtBlank 10 r.natAbs)) = r :=
  ⟨signed_scale s hs, signed_ref r hr1 hr2⟩

/-- **text**: the two name lines give the first 64 characters without trailing white space, the
unit line the first 24; within these lengths that is the text itself up to trailing white space;
and the data type inferred from the unit is unchanged (for every unit, of any length) -/
theorem C20_fields_text (name unit : Bytes) (hn : NoNul name) (hu : NoNul unit) :
    strim ((splitLines 32 32 name).1 ++ (splitLines 32 32 name).2) = normName name ∧
    strim (splitLines 24 0 unit).1 = normUnit unit ∧
    (name.length ≤ 64 → normName name = rtrim isSpace name) ∧
    (unit.length ≤ 24 → normUnit unit = rtrim isSpace unit) ∧
    unitToType (normUnit unit) = unitToType unit := by
  refine ⟨strim_lines name hn 32 32, strim_line unit hu 24, ?_, ?_, unitToType_normUnit unit⟩
  · intro h; unfold normName; rw [List.take_of_length_le h]
  · intro h; unfold normUnit; rw [List.take_of_length_le h]

/-- **descriptor**: F, X, Y printed as 1, 2 and 3 digits give the descriptor back -/
theorem C20_fields_fxy (d : Nat) (h : d < 1000000) :
    atoi (fmtZero 1 (Desc.f d)) = Desc.f d ∧ atoi (fmtZero 2 (Desc.x d)) = Desc.x d ∧
    atoi (fmtZero 3 (Desc.y d)) = Desc.y d ∧
    wrap32 ((Desc.f d : Int) * 100000 + (Desc.x d : Int) * 1000 + (Desc.y d : Int)) = d :=
  fxy_back d h

/-- **the walk inverts the writer**: `bufr_extract_tables` over the items `bufr_store_tables`
wrote gives every entry back, in order: descriptors, scale, reference, width and member lists
unchanged, names and units as carried (cut to 64/24 characters, trailing white space removed),
the category together with Table B entries -/
theorem C20_extract_items (l : Local) (h : InRange l) :
    extractItems (specItems l) = some (Extracted.ofLocal (carried l)) :=
  extract_specItems l h

/-- **the writer**: Section 4 as `bufr_store_tables` fills it is the items one after the other
(octets for text, 8 or 16 bits for counts), nothing else, for every table set -/
theorem C20_section4 (l : Local) :
    (storeBits stdMeta l).bits = itemsBits (specItems l) ∧ WInv (storeBits stdMeta l) :=
  storeBits_bits l

/-- **the decoder**: under tables that define the class 00 elements as WMO does, the reference
decoder reads the bits written (followed by any padding) under the Section 3 written back as
exactly these items, in the neutral operator state, leaving the padding -/
theorem C20_refdecode (T : Tables) (hT : StdT T) (l : Local) (h : InRange l) (F : Nat)
    (hF : F ≥ l.b.length + l.d.length + 300) (pad : List Bool) :
    Spec.decSeq T F {} (sec3 l.b.length l.d.length) (itemsBits (specItems l) ++ pad) = some (specItems l, {}, pad) :=
  refdecode_store T hT l h F hF pad

/-- **Section 3**: the descriptors `bufr_store_tables` writes, spelt out: category and Table B entries under delayed
replications (counted by 0 31 002 from 256 entries on), Table D entries under a replication with its count in the
descriptor up to 255 entries and a delayed one beyond -/
theorem C20_section3 (nb nd : Nat) : sec3 nb nd =
    (if nb > 0 then [103000, 31001, 1, 2, 3, 101000, if nb < 256 then 31001 else 31002, 300004] else []) ++
    (if nd > 0 then (if nd < 256 then [101000 + nd] else [101000, 31002]) ++ [300010] else []) := rfl

theorem bytesBits_bytes (w : W) : ∃ pad, bytesBits w.bytes = w.bits ++ pad := by
  unfold bytesBits W.bytes W.bits
  by_cases h0 : w.bitno = 0
  · exact ⟨[], by simp [h0]⟩
  · refine ⟨(bitsMSB 8 w.curb).drop w.bitno, ?_⟩
    simp only [h0, if_false, List.flatMap_append, List.flatMap_cons, List.flatMap_nil, List.append_nil,
      List.append_assoc, List.take_append_drop]

theorem sec3_descOk (nb nd : Nat) : ∀ d ∈ sec3 nb nd, DescOk d := by
  unfold sec3
  rw [List.forall_mem_append]
  constructor
  · split
    · split <;> decide
    · decide
  · split
    · split
      · intro d hd
        rcases List.mem_cons.mp hd with rfl | hd
        · unfold DescOk; omega
        · rw [List.mem_singleton.mp hd]; decide
      · decide
    · decide

theorem createMessage_inRange : ∀ ed ∈ [2, 3, 4],
    ((createMessage ed).edition = 2 ∨ (createMessage ed).edition = 3 ∨ (createMessage ed).edition = 4) ∧
    S1InRange (createMessage ed).edition { (createMessage ed).s1 with msgType := 11 } ∧
    hasSect2 (createMessage ed).s1.flag = false := by decide

theorem preMsg_inRange (ed : Nat) (l : Local) (hed : ed = 2 ∨ ed = 3 ∨ ed = 4)
    (hsize : (storeMsg stdMeta ed l).lenMsg < 16777216) : FieldsInRange (preMsg stdMeta ed l) := by
  obtain ⟨h1, h2, h3⟩ := createMessage_inRange ed (by simp only [List.mem_cons, List.mem_nil_iff, or_false]; exact hed)
  obtain ⟨o1, o2, o3⟩ := storeBits_octets l
  refine ⟨h1, h2, fun _ h => absurd (h3 ▸ h) Bool.false_ne_true, (by decide : 1 < 65536), (by decide : 0 < 256),
    sec3_descOk _ _, ?_, ?_, hsize⟩
  · show (storeBits stdMeta l).bitno < 8
    omega
  · show (storeBits stdMeta l).bytes.length =
      (storeBits stdMeta l).filled + (if (storeBits stdMeta l).bitno > 0 then 1 else 0)
    rw [o1, o2, o3]
    rfl

theorem endMessage_s4 (m : Msg) (h : m.s4Data.length = m.s4Filled + (if m.s4Bitno > 0 then 1 else 0)) :
    ∃ z : List Nat, m.endMessage.s4Data.take (m.endMessage.s4Len - 4) = m.s4Data ++ z := by
  rw [(endMessage_sect4 m).2 h, Nat.add_sub_cancel, List.take_length]
  unfold Msg.endMessage
  dsimp only
  by_cases hp : m.edition ≤ 3 ∧ (m.s4Filled + 4 + if m.s4Bitno > 0 then 1 else 0) % 2 = 1
  · exact ⟨[0], by rw [decide_eq_true hp, if_pos rfl]⟩
  · exact ⟨[], by rw [decide_eq_false hp, if_neg Bool.false_ne_true, List.append_nil]⟩

/-- the table update for `l` as a reader returns it -/
def readBack (ed : Nat) (l : Local) : Msg := normalize none (storeMsg stdMeta ed l)

/-- what `bufr_store_tables` writes and what a reader makes of it, the message by name -/
theorem store_readback (Tw Tr : Tables) (l : Local) (ed fuel F : Nat)
    (hed : ed = 2 ∨ ed = 3 ∨ ed = 4) (hl : InRange l) (hne : ¬ (l.b = [] ∧ l.d = []))
    (hmeta : metaOf (tablesOf Tw l) fuel (!l.b.isEmpty) (!l.d.isEmpty) = .ok stdMeta)
    (hsize : (storeMsg stdMeta ed l).lenMsg < 16777216)
    (hTr : StdT Tr) (hF : F ≥ l.b.length + l.d.length + 300) :
    store Tw fuel ed l = .wrote (writeBody (storeMsg stdMeta ed l)) ∧
    readMessage (writeBody (storeMsg stdMeta ed l)) =
      .ok (readBack ed l, (writeBody (storeMsg stdMeta ed l)).length) ∧
    (readBack ed l).s1.msgType = 11 ∧ (readBack ed l).edition = ed ∧
    (readBack ed l).descs = sec3 l.b.length l.d.length ∧
    (Spec.refDecode Tr F (readBack ed l).edition (readBack ed l).descs
        (readBack ed l).nSubsets ((readBack ed l).s3Flag &&& 64 ≠ 0) false
        (bytesBits (readBack ed l).s4Data)).bind
      (fun subs => extractItems subs.flatten) = some (Extracted.ofLocal (carried l)) := by
  have hR := preMsg_inRange ed l hed hsize
  obtain ⟨hw, hr⟩ := Bufr.C06.C06_readback_partial (preMsg stdMeta ed l) [] hR rfl (by decide) (by simp)
  replace hw : writeMessage (storeMsg stdMeta ed l) =
      .ok ((storeMsg stdMeta ed l).written, writeBody (storeMsg stdMeta ed l)) := hw
  replace hr : readMessage (writeBody (storeMsg stdMeta ed l)) =
      .ok (readBack ed l, (writeBody (storeMsg stdMeta ed l)).length) := hr
  have hdescs : (readBack ed l).descs = sec3 l.b.length l.d.length := by
    show (sec3 l.b.length l.d.length).map normDesc = _
    have : ∀ d ∈ sec3 l.b.length l.d.length, normDesc d = d := fun d hd => normDesc_ok d (sec3_descOk _ _ d hd)
    rw [List.map_congr_left this, List.map_id']
  refine ⟨?_, hr, ?_, ?_, hdescs, ?_⟩
  · -- the writer
    unfold store
    have hemp : ¬ (l.b.isEmpty = true ∧ l.d.isEmpty = true) := by
      intro ⟨h1, h2⟩
      exact hne ⟨List.isEmpty_iff.mp h1, List.isEmpty_iff.mp h2⟩
    simp only [hemp, if_false, hmeta]
    show (match writeMessage (storeMsg stdMeta ed l) with
          | .ok (_, bytes) => StoreRes.wrote bytes
          | .err => StoreRes.wrote []) = _
    rw [hw]
  · show 11 % 256 = 11; decide
  · rcases hed with rfl | rfl | rfl <;> rfl
  · -- the reader's Section 4 is the writer's bits and padding
    obtain ⟨-, -, -, -, -, -, -, hs4Len, -⟩ := hR
    obtain ⟨z, hs4⟩ := endMessage_s4 (preMsg stdMeta ed l) hs4Len
    obtain ⟨hbits, hI⟩ := storeBits_bits l
    obtain ⟨pad0, hpad0⟩ := bytesBits_bytes (storeBits stdMeta l)
    have hdata : bytesBits (readBack ed l).s4Data =
        itemsBits (specItems l) ++ (pad0 ++ bytesBits z) := by
      show bytesBits ((preMsg stdMeta ed l).endMessage.s4Data.take ((preMsg stdMeta ed l).endMessage.s4Len - 4)) = _
      rw [hs4]
      show bytesBits ((storeBits stdMeta l).bytes ++ z) = _
      unfold bytesBits at hpad0 ⊢
      rw [List.flatMap_append, hpad0, hbits, List.append_assoc]
    have hns : (readBack ed l).nSubsets = 1 := rfl
    have hfl : (readBack ed l).s3Flag = 0 := rfl
    rw [hdata, hdescs, hns, hfl]
    have hdec := refdecode_store Tr hTr l hl F hF (pad0 ++ bytesBits z)
    obtain ⟨F', rfl⟩ : ∃ F', F = F' + 1 := ⟨F - 1, by omega⟩
    unfold Spec.refDecode
    simp only [show ¬ ((0 : Nat) &&& 64 ≠ 0) by decide, decide_false, Bool.false_eq_true, if_false, false_and,
      Spec.decSubsets, hdec, Option.bind_eq_bind, Option.bind_some, Option.pure_def, List.flatten_cons,
      List.flatten_nil, List.append_nil]
    exact extract_specItems l hl

/-- **round trip** (partial: the decoder in the chain is the *reference* decoder of BufrSpec —
FM 94 read off the regulation — not the model of `bufr_decode_message`; what is missing is the
refinement theorem "the decoder model returns the items the reference decoder returns" for this
template, which is property C03/C04's business and is covered here by the correspondence: the
`lt.extract` stream runs the decoder model, and `spec.decode` compares both decoders).

For every table set within what the message can carry (`InRange`: descriptors and members below
1 000 000, C strings of octets, |scale| ≤ 999, reference any `int`, width ≤ 999, 1..255 members,
fewer than 65 536 entries each), written in edition 2, 3 or 4 under tables with the WMO class 00
widths, `bufr_store_tables` writes a message that reads back (C06) as a table update (data
category 11) whose Section 3/4 the reference decoder turns into items over which
`bufr_extract_tables` returns the table set as carried: same descriptors, scale, reference,
width, sequences; names and units up to the trailing white space the code trims. -/
theorem C20_roundtrip_partial (Tw Tr : Tables) (l : Local) (ed fuel F : Nat)
    (hed : ed = 2 ∨ ed = 3 ∨ ed = 4) (hl : InRange l) (hne : ¬ (l.b = [] ∧ l.d = []))
    (hmeta : metaOf (tablesOf Tw l) fuel (!l.b.isEmpty) (!l.d.isEmpty) = .ok stdMeta)
    (hsize : (storeMsg stdMeta ed l).lenMsg < 16777216)
    (hTr : StdT Tr) (hF : F ≥ l.b.length + l.d.length + 300) :
    ∃ bytes m, store Tw fuel ed l = .wrote bytes ∧
      readMessage bytes = .ok (m, bytes.length) ∧ m.s1.msgType = 11 ∧ m.edition = ed ∧
      m.descs = sec3 l.b.length l.d.length ∧
      (Spec.refDecode Tr F m.edition m.descs m.nSubsets (m.s3Flag &&& 64 ≠ 0) false (bytesBits m.s4Data)).bind
        (fun subs => extractItems subs.flatten) = some (Extracted.ofLocal (carried l)) :=
  ⟨_, _, store_readback Tw Tr l ed fuel F hed hl hne hmeta hsize hTr hF⟩

/-- The middle of the model's `extractFromBytes`, `bufr_decode_message` and `bufr_extract_tables` on a message read, copied
so that it can be evaluated on a message given by name.  It leaves out the two ends: `Frame.readMessage` with the
`nonEmpty` test in front, and the comparison `specAgrees` with the reference decoder behind (`extractFromBytes_agree`). -/
def decodeExtract (T : Tables) (fuel : Nat) (m : Msg) : ExtractRes :=
  if m.descs.isEmpty then .null else
  match createTemplate T fuel m.edition m.descs with
  | .error .fuel => .diverge
  | .error _ => .null
  | .ok t =>
    match decodeData T fuel t .warnAllow m.nSubsets (m.s3Flag &&& 64 ≠ 0) m.s4Len m.s4Data 0 0 with
    | .error .fuel => .diverge
    | .error _ => .crash
    | .ok none => .null
    | .ok (some out) =>
      if out.early ∨ m.s1.msgType ≠ 11 then .notables
      else match extract out.subsets with
        | none => .crash
        | some x => .ok out.invalid x

theorem extractFromBytes_agree (T : Tables) (fuel : Nat) (bytes : List Nat) (m : Msg) (n : Nat) (inv : Bool) (x : Extracted)
    (hr : readMessage bytes = .ok (m, n)) (hd : decodeExtract T fuel m = .ok inv x)
    (ha : specAgrees T fuel m x = true) : extractFromBytes T true fuel bytes = .ok inv x := by
  unfold extractFromBytes
  unfold decodeExtract at hd
  rw [hr]
  simp only [Bool.not_true, Bool.false_eq_true, false_or]
  split at hd
  · cases hd
  · rename_i hne
    rw [if_neg hne]
    split at hd <;> try cases hd
    rename_i t ht
    rw [ht]
    simp only
    split at hd <;> try cases hd
    rename_i out ho
    rw [ho]
    simp only
    split at hd
    · cases hd
    · rename_i hn
      rw [if_neg hn]
      split at hd
      · cases hd
      · rename_i y hy
        cases hd
        rw [hy]
        simp only [ha, Bool.not_true, Bool.and_false, Bool.false_eq_true, if_false]

theorem specAgrees_of_refDecode (T : Tables) (fuel : Nat) (m : Msg) (x : Extracted)
    (h : (Spec.refDecode T fuel m.edition m.descs m.nSubsets (m.s3Flag &&& 64 ≠ 0) false (bytesBits m.s4Data)).bind
      (fun subs => extractItems subs.flatten) = some x) : specAgrees T fuel m x = true := by
  unfold specAgrees
  split
  · rfl
  · cases hd : Spec.refDecode T fuel m.edition m.descs m.nSubsets (m.s3Flag &&& 64 ≠ 0) false (bytesBits m.s4Data) with
    | none => rfl
    | some subs =>
      rw [hd, Option.bind_some] at h
      simp only [h, decide_true, Bool.true_or]

theorem preMsg_octets (ed : Nat) (l : Local) :
    preMsg stdMeta ed l =
      { createMessage ed with
        s1 := { (createMessage ed).s1 with msgType := 11 }, s3Flag := 0, nSubsets := 1,
        descs := sec3 l.b.length l.d.length, s4Data := octets l, s4Filled := (octets l).length, s4Bitno := 0 } := by
  obtain ⟨h1, h2, h3⟩ := storeBits_octets l
  unfold preMsg
  simp only [h1, h2, h3]

/-- **the chain on the decoder model**: when `bufr_decode_message` and `bufr_extract_tables` return the table set
as carried from the message `bufr_store_tables` wrote, so does the whole chain from `store` to
`extractFromBytes`: the cross-check against the reference decoder is `store_readback` -/
theorem store_extract (Tw T : Tables) (l : Local) (ed fuel F : Nat) (inv : Bool)
    (hed : ed = 2 ∨ ed = 3 ∨ ed = 4) (hl : InRange l) (hne : ¬ (l.b = [] ∧ l.d = []))
    (hmeta : metaOf (tablesOf Tw l) fuel (!l.b.isEmpty) (!l.d.isEmpty) = .ok stdMeta)
    (hsize : (storeMsg stdMeta ed l).lenMsg < 16777216)
    (hT : StdT T) (hF : F ≥ l.b.length + l.d.length + 300)
    (hd : decodeExtract T F (readBack ed l) = .ok inv (Extracted.ofLocal (carried l))) :
    ∃ bytes, store Tw fuel ed l = .wrote bytes ∧
      extractFromBytes T true F bytes = .ok inv (Extracted.ofLocal (carried l)) := by
  obtain ⟨hw, hr, _, _, _, hx⟩ := store_readback Tw T l ed fuel F hed hl hne hmeta hsize hT hF
  exact ⟨_, hw, extractFromBytes_agree T F _ _ _ inv _ hr hd (specAgrees_of_refDecode T F _ _ hx)⟩

/-- the lookups of table set `b` agree with those of `a` on every encoding field -/
def SameEncoding (a b : Option EntryB) : Prop :=
  a.map (fun e => (e.desc, e.scale, e.ref, e.nbits, e.typ)) = b.map (fun e => (e.desc, e.scale, e.ref, e.nbits, e.typ))

/-- **same tables**: merging the extracted entries into a table set (`bufr_merge_tables`) gives
exactly the table set that merging the original entries *as carried* gives — as functions, for
every descriptor — and against the original entries themselves every Table D lookup is equal
and every Table B lookup has the same descriptor, scale, reference, width and data type (the
type inferred from the trimmed unit is the original type).  For entries that are already
trimmed (`normB e = e`, which every loader guarantees) the two table sets are equal. -/
theorem C20_decodes_alike (M : Tables) (l : Local) :
    tablesOf M (mergeLocal {} (Extracted.ofLocal (carried l)).toLocal) = tablesOf M (mergeLocal {} (normalizeL l)) ∧
    (∀ k, (tablesOf M (mergeLocal {} (normalizeL l))).fetchD k = (tablesOf M (mergeLocal {} l)).fetchD k) ∧
    (∀ k, SameEncoding ((tablesOf M (mergeLocal {} (normalizeL l))).fetchB k) ((tablesOf M (mergeLocal {} l)).fetchB k)) ∧
    ((∀ e ∈ l.b, normB e = e) → tablesOf M (mergeLocal {} (normalizeL l)) = tablesOf M (mergeLocal {} l)) := by
  obtain ⟨hb, hd⟩ := mergeLocal_normalizeL l
  refine ⟨by rw [toLocal_ofLocal, mergeLocal_carried], ?_, ?_, ?_⟩
  · intro k
    unfold tablesOf
    simp only [hd]
  · intro k
    unfold tablesOf SameEncoding
    simp only [hb]
    by_cases hf : Desc.f k = 0
    · simp only [hf, if_true, List.find?_map]
      have hcomp : ((fun e : LB => decide (e.desc = k)) ∘ normB) = fun e : LB => decide (e.desc = k) := by
        funext e; rfl
      rw [hcomp]
      cases (mergeLocal {} l).b.find? (fun e => decide (e.desc = k)) with
      | none => rfl
      | some e => simp [toEntryB_normB]
    · simp only [hf, if_false]
  · intro h
    have : normalizeL l = l := by
      unfold normalizeL
      have : l.b.map normB = l.b := by
        rw [List.map_congr_left h, List.map_id']
      rw [this]
    rw [this]

/-- **same decoding**: table sets that answer every lookup alike make the decoder model — template
creation and the whole of `bufr_decode_message` — return the same for every message -/
theorem C20_decode_congr (T1 T2 : Tables) (hB : ∀ k, T1.fetchB k = T2.fetchB k) (hD : ∀ k, T1.fetchD k = T2.fetchD k) :
    createTemplate T1 = createTemplate T2 ∧ decodeData T1 = decodeData T2 ∧
    (fun nonEmpty fuel bytes => extractFromBytes T1 nonEmpty fuel bytes) =
      (fun nonEmpty fuel bytes => extractFromBytes T2 nonEmpty fuel bytes) := by
  have : T1 = T2 := by
    cases T1; cases T2
    simp only [Tables.mk.injEq]
    exact ⟨funext hB, funext hD⟩
  subst this
  exact ⟨rfl, rfl, rfl⟩

/-! ### Non-vacuity: the hypotheses are met by concrete, non-trivial data, and the whole chain
— including the *decoder model* `decodeData`, not only the reference decoder — computes the
table set back on them (kernel evaluation) -/

def ccittE (d n : Nat) : EntryB := { desc := d, scale := 0, ref := 0, nbits := 8 * n, typ := .ccitt }

/-- master tables with the WMO class 00 elements, the replication factors, 0 01 001 and the three sequences -/
def wmoT : Tables where
  fetchB k :=
    if k = 1 then some (ccittE 1 3) else if k = 2 then some (ccittE 2 32) else if k = 3 then some (ccittE 3 32)
    else if k = 10 then some (ccittE 10 1) else if k = 11 then some (ccittE 11 2) else if k = 12 then some (ccittE 12 3)
    else if k = 13 then some (ccittE 13 32) else if k = 14 then some (ccittE 14 32) else if k = 15 then some (ccittE 15 24)
    else if k = 16 then some (ccittE 16 1) else if k = 17 then some (ccittE 17 3) else if k = 18 then some (ccittE 18 1)
    else if k = 19 then some (ccittE 19 10) else if k = 20 then some (ccittE 20 3) else if k = 30 then some (ccittE 30 6)
    else if k = 31001 then some { desc := 31001, scale := 0, ref := 0, nbits := 8, typ := .numeric }
    else if k = 31002 then some { desc := 31002, scale := 0, ref := 0, nbits := 16, typ := .numeric }
    else if k = 1001 then some { desc := 1001, scale := 0, ref := 0, nbits := 7, typ := .numeric }
    else none
  fetchD k :=
    if k = 300003 then some { desc := 300003, members := [10, 11, 12] }
    else if k = 300004 then some { desc := 300004, members := [300003, 13, 14, 15, 16, 17, 18, 19, 20] }
    else if k = 300010 then some { desc := 300010, members := [300003, 101000, 31001, 30] }
    else none

def asc (s : String) : Bytes := asciiBytes s

/-- a table set: a name of 33 characters (both lines), trailing blanks and a tab, lower case and
punctuation, a unit of every type keyword and a plain one, scale and reference of both signs at
their limits (−999, −2147483648, 2147483647), widths 1 and 999, sequences with fixed and delayed
replication and a nested local sequence -/
def exL : Local :=
  { cat := 11, catDesc := asc "LOCAL TEST TABLES" ++ List.replicate 47 32,
    b := [ { desc := 48001, name := asc "AIR TEMPERATURE AT 2 M ABOVE GROUND", unit := asc "K", scale := 1, ref := -999, width := 12 },
           { desc := 48002, name := asc "station (type), see note 3   \t ", unit := asc "CODE TABLE  ", scale := 0, ref := 0, width := 1 },
           { desc := 48003, name := asc "", unit := asc "flag table", scale := -999, ref := -2147483648, width := 999 },
           { desc := 63255, name := asc "NAME OF SOMETHING", unit := asc "CCITT IA5", scale := 999, ref := 2147483647, width := 64 },
           { desc := 1192, name := List.replicate 64 78, unit := List.replicate 24 85, scale := -1, ref := 1000000000, width := 31 } ],
    d := [ { desc := 348001, members := [48001, 101002, 48002] },
           { desc := 348002, members := [348001, 102000, 31001, 48003, 63255] } ] }

theorem wmoT_std : StdT wmoT :=
  { c1 := ⟨_, rfl, rfl, rfl⟩, c2 := ⟨_, rfl, rfl, rfl⟩, c3 := ⟨_, rfl, rfl, rfl⟩, c10 := ⟨_, rfl, rfl, rfl⟩,
    c11 := ⟨_, rfl, rfl, rfl⟩, c12 := ⟨_, rfl, rfl, rfl⟩, c13 := ⟨_, rfl, rfl, rfl⟩, c14 := ⟨_, rfl, rfl, rfl⟩,
    c15 := ⟨_, rfl, rfl, rfl⟩, c16 := ⟨_, rfl, rfl, rfl⟩, c17 := ⟨_, rfl, rfl, rfl⟩, c18 := ⟨_, rfl, rfl, rfl⟩,
    c19 := ⟨_, rfl, rfl, rfl⟩, c20 := ⟨_, rfl, rfl, rfl⟩, c30 := ⟨_, rfl, rfl, rfl⟩,
    f1 := ⟨_, rfl, rfl, rfl⟩, f2 := ⟨_, rfl, rfl, rfl⟩,
    d3 := ⟨_, rfl, rfl⟩, d4 := ⟨_, rfl, rfl⟩, d10 := ⟨_, rfl, rfl⟩ }

example : StdT wmoT := wmoT_std

example : InRange exL := by decide +kernel

/-- the writer finds the WMO widths in these tables (through the model of `bufr_expand_descriptor`) -/
example : metaOf (tablesOf wmoT exL) 100 (!exL.b.isEmpty) (!exL.d.isEmpty) = .ok stdMeta := by decide +kernel

/-- what the message carries of `exL`: the 33-character name is whole, the trailing blanks and the
tab are gone, the units are trimmed -/
example : (carried exL).b.map (fun e => (e.name.length, e.unit.length)) = [(35, 1), (26, 10), (0, 10), (17, 9), (64, 24)] := by
  decide +kernel

/-- a smaller table set for the evaluation of the whole chain by the kernel -/
def exS : Local :=
  { cat := 11, catDesc := asc "LOCAL TEST TABLES" ++ List.replicate 47 32,
    b := [ { desc := 48002, name := asc "station (type), see note 3   \t ", unit := asc "CODE TABLE  ", scale := -999, ref := -2147483648, width := 999 },
           { desc := 1192, name := List.replicate 33 78, unit := asc "K", scale := 1, ref := 1000, width := 12 } ],
    d := [ { desc := 348002, members := [348001, 102000, 31001, 48002, 1192] } ] }

def chain (ed : Nat) : ExtractRes :=
  match store wmoT 1000 ed exS with
  | .wrote bytes => extractFromBytes wmoT true 1000 bytes
  | _ => .noread

theorem exS_inRange : InRange exS := by decide +kernel

example : InRange exS := exS_inRange

/-- the size of the message, from Section 4 in octets -/
theorem exS_size (ed : Nat) (hed : ed = 3 ∨ ed = 4) : (storeMsg stdMeta ed exS).lenMsg < 16777216 := by
  rw [storeMsg, preMsg_octets]
  rcases hed with rfl | rfl <;> decide +kernel

set_option maxRecDepth 100000 in
example : (storeMsg stdMeta 3 exS).lenMsg < 16777216 := exS_size 3 (Or.inl rfl)

/-- the decoder model and the walk on the message for `exS`, Section 4 in octets; the rest of `chain` is `store_extract` -/
theorem exS_chain (ed : Nat) (hed : ed = 3 ∨ ed = 4)
    (hd : decodeExtract wmoT 1000 (readBack ed exS) = .ok false (Extracted.ofLocal (carried exS))) :
    chain ed = .ok false (Extracted.ofLocal (carried exS)) := by
  obtain ⟨bytes, hw, hx⟩ := store_extract wmoT wmoT exS ed 1000 1000 false (by omega) exS_inRange (by decide)
    (by decide +kernel) (exS_size ed hed) wmoT_std (by decide) hd
  unfold chain
  rw [hw]
  exact hx

set_option maxRecDepth 100000 in
/-- **the whole chain on the decoder model**: `bufr_store_tables`, the framing, the reader,
`decodeData` (template expansion, delayed replications resolved on the fly, every element read)
and `bufr_extract_tables` return the table set as carried (edition 3 with its pad octet, edition 4) -/
example : chain 3 = .ok false (Extracted.ofLocal (carried exS)) ∧ chain 4 = .ok false (Extracted.ofLocal (carried exS)) :=
  ⟨exS_chain 3 (Or.inl rfl) (by rw [readBack, storeMsg, preMsg_octets]; decide +kernel),
   exS_chain 4 (Or.inr rfl) (by rw [readBack, storeMsg, preMsg_octets]; decide +kernel)⟩

/-- the bounds are needed: a scale of 1000 does not fit its three characters and comes back as 100 -/
example : extractItems (specItems { b := [{ desc := 48001, name := asc "X", unit := asc "M", scale := 1000, ref := 0, width := 8 }] })
    = some (Extracted.ofLocal { b := [{ desc := 48001, name := asc "X", unit := asc "M", scale := 100, ref := 0, width := 8 }] }) := by
  decide +kernel

end Bufr.C20
