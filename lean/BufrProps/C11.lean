import BufrProofs.Bits
/-
  C11 — Bit-level I/O: what is written is what is read, at every width and offset.

  Model: BufrModel/Bits.lean (`W` writer, `R` reader), tied to bufr_io.c by the
  `w.*`/`r.*` correspondence streams.
-/
namespace Bufr.C11
open Bufr

/-- **put**: a write of up to 64 bits appends exactly those bits, most significant first, with
no gap; it touches nothing beyond the 10-byte slack of the allocation; and the buffer is grown so
the same holds for the next call. -/
theorem C11_put (w : W) (v n : Nat) (hI : WInv w) (hc : CapInv w) (hn : n ≤ 64) :
    (w.putbits v n).bits = w.bits ++ bitsMSB n v ∧ WInv (w.putbits v n) ∧
    CapInv (w.putbits v n) ∧ w.maxTouched n < w.maxDataLen + 10 := by
  have h1 := putbits_bits w v n hI
  have h2 := putbits_cap w v n hI hc hn
  exact ⟨h1.1, h1.2, h2.2, h2.1⟩

/-- **get**: a read that fits returns the next `n` bits, no error, cursor advanced by `n`. -/
theorem C11_get (r : R) (n : Nat) (hI : RInv r) (hn : 1 ≤ n ∧ n ≤ 64) (hr : n ≤ r.bits.length) :
    (r.getbits n).1 = ofBitsMSB (r.bits.take n) ∧ (r.getbits n).2.1 = 0 ∧
    (r.getbits n).2.2.bits = r.bits.drop n ∧ RInv (r.getbits n).2.2 := by
  obtain ⟨r', e, h⟩ := getbits_ok r n hI hn.1 hn.2 hr
  rw [e]
  exact ⟨rfl, rfl, h.bits, h.inv⟩

/-- **get past the end**: an error is reported (and the model reads no byte at an index
`≥ maxDataLen`: every access in `R.getbits` is `r.byte cur` under the guard `cur < maxDataLen`). -/
theorem C11_get_past_end (r : R) (n : Nat) (hI : RInv r) (hn : 1 ≤ n ∧ n ≤ 64)
    (hr : r.bits.length < n) (hpos : r.pos ≤ 8 * r.maxDataLen) : (r.getbits n).2.1 < 0 := by
  apply getbits_past_end r n hI hn.1 hn.2
  rw [R.bits_length] at hr; omega

/-- **skip**: skipping `n ≥ 0` bits leaves the cursor exactly where reading `n` bits would. -/
theorem C11_skip (r : R) (n : Nat) (hI : RInv r) (hn : n ≤ 64) (hr : n ≤ r.bits.length) :
    (r.skipBits n).1 = 0 ∧ (r.skipBits n).2 = (r.getbits n).2.2 := by
  by_cases h0 : n = 0
  · subst h0; simp [R.skipBits, R.getbits]
  obtain ⟨rs, es, hs⟩ := skipBits_ok r n hI hr
  obtain ⟨rg, eg, hg⟩ := getbits_ok r n hI (by omega) hn hr
  rw [es, eg]
  refine ⟨rfl, R.ext_pos _ _ hs.inv hg.inv ?_ ?_ ?_⟩
  · rw [hs.data, hg.data]
  · rw [hs.max, hg.max]
  · rw [hs.pos, hg.pos]

/-- skipping any number of bits (not only `≤ 64`) that fit: cursor `+ n`, no error. -/
theorem C11_skip_any (r : R) (n : Nat) (hI : RInv r) (hr : n ≤ r.bits.length) :
    (r.skipBits n).1 = 0 ∧ (r.skipBits n).2.pos = r.pos + n ∧ (r.skipBits n).2.bits = r.bits.drop n := by
  obtain ⟨rs, es, hs⟩ := skipBits_ok r n hI hr
  rw [es]
  exact ⟨rfl, hs.pos, hs.bits⟩

/-- **skip past the end**: a skip that does not fit reports an error — also when the cursor already stands at
the end of the section, where `bufr_skip_bits` used to answer 0 for skips of 1 to 8 bits and move the cursor
beyond the end (repaired in the library; `r.skip` in the stream). -/
theorem C11_skip_past_end (r : R) (n : Nat) (hI : RInv r) (hn : 0 < n)
    (hr : r.bits.length < n) (hpos : r.pos ≤ 8 * r.maxDataLen) : (r.skipBits n).1 = -1 := by
  apply skipBits_past_end r n hI hn
  rw [R.bits_length] at hr; omega

/-- the case the original code got wrong: the cursor at the end of a 2-octet section, one more bit to skip -/
example : (((R.ofBytes [0xaa, 0xbb]).skipBits 16).2.skipBits 1).1 = -1 := by decide

/-- **fields**: any sequence of fields of 1..64 bits written starting at *any* bit offset (any
writer state satisfying the invariant) is read back identically from the bytes produced. -/
theorem C11_fields (w0 : W) (fs : List (Nat × Nat)) (hI : WInv w0) (hc : CapInv w0)
    (hfs : ∀ f ∈ fs, 1 ≤ f.2 ∧ f.2 ≤ 64) :
    let w := w0.putFields fs
    let r0 := R.ofBytes w.bytes
    let r := { r0 with cur := w0.filled, bitno := w0.bitno }
    CapInv w ∧ ∃ r', r.getFields (fs.map (·.2)) = some (fs.map (fun f => f.1 % 2^f.2), r') ∧
      r'.pos = w.pos := by
  intro w r0 r
  obtain ⟨hb, hIw⟩ := putFields_bits fs w0 hI
  refine ⟨(putFields_safe fs (fun f hf => (hfs f hf).2) w0 hI hc).2, ?_⟩
  obtain ⟨pad, hall⟩ := ofBytes_allBits w
  have hrb : r.bits = fieldBits fs ++ pad := by
    show List.drop r.pos r0.allBits = _
    rw [hall, show r.pos = w0.bits.length from (W.bits_length _ hI).symm]
    show List.drop _ ((w0.putFields fs).bits ++ pad) = _
    rw [hb, List.append_assoc, List.drop_left]
  obtain ⟨r', e, h⟩ := getFields_ok fs hfs r pad ⟨hI.bitno_lt⟩ hrb
  refine ⟨r', e, ?_⟩
  show _ = (w0.putFields fs).pos
  rw [h.pos, ← W.bits_length _ hIw, hb, List.length_append, W.bits_length _ hI]
  rfl

/-- **strings**: a padded string written with `bufr_put_padstring` occupies exactly `enclen`
octets: the first `min len enclen` characters, then blanks. -/
theorem C11_padstring (w : W) (s : List Nat) (enclen : Nat) (hI : WInv w) :
    (w.putPadString s enclen).bits =
      w.bits ++ ((s.take enclen ++ List.replicate (enclen - s.length) 32).flatMap (bitsMSB 8)) :=
  (putPadString_bits w s enclen hI).1

/-! ### Non-vacuity: the hypotheses are met by concrete, non-trivial states -/

example : WInv (W.new 4) ∧ CapInv (W.new 4) := ⟨WInv_new 4, by simp [CapInv, W.new, W.filled]⟩

/-- a writer at bit offset 3 with one byte done -/
example : WInv ((W.new 4).putbits 0x5a5 11) ∧ ((W.new 4).putbits 0x5a5 11).bitno = 3 :=
  ⟨(putbits_bits _ _ _ (WInv_new 4)).2, by decide⟩

/-- the model really reads back a 64-bit field written across 9 bytes at offset 3 -/
example :
    let w := ((W.new 4).putbits 5 3).putbits 0xfedcba9876543210 64
    let r := R.ofBytes w.bytes
    ((r.getbits 3).2.2.getbits 64).1 = 0xfedcba9876543210 := by decide

/-- a reader in the middle of a section -/
example : RInv { data := #[0xaa, 0xbb, 0xcc], cur := 1, bitno := 5, maxDataLen := 3 } := ⟨by decide⟩

/-- the boundary case the original code got wrong: a 16-bit read ending exactly at the end,
then one more read, which must fail -/
example :
    let r := R.ofBytes [0xaa, 0xbb]
    (r.getbits 16).1 = 0xaabb ∧ ((r.getbits 16).2.2.getbits 8).2.1 = -1 := by decide

/-- the other boundary case: a zero-length skip on a byte boundary does not move -/
example : ((R.ofBytes [1, 2, 3]).skipBits 0).2.pos = 0 := by decide

end Bufr.C11
