import BufrProofs.Frame
import BufrProofs.Bits
/-
  C06 — Messages are framed consistently and read back identically on every I/O path.

  Model: BufrModel/Frame.lean and Header.lean, tied to bufr_io.c / bufr_message.c / bufr_sio.c /
  bufr_util.c by the `msg.*` correspondence streams (four writers, four readers).

  Vocabulary
  * `m` is a message as the application has filled it in; `m.endMessage` is what
    `bufr_end_message` makes of it; `writeMessage` is `bufr_callback_write_message`.
  * `FieldsInRange m` is the quantifier of the property: editions 2–4, Section 1 values the
    edition's octets and the API's `short`/`int` fields can hold, valid descriptors, a consistent
    bit cursor, Section 1 length at least the edition's default (even for editions 2–3), an
    even Section 2 payload for editions 2–3 (what `bufr_sect2_set_data` produces), and a total
    length below 2^24.
  * `normalize h m` is the message a reader returns: `h` is the header string; the master
    table is 0 (forced by the writer), edition ≤ 3 year is `(y−1)%100+1`, edition 2 has no
    sub-centre, edition ≤ 3 has no international sub-category and no seconds, Section 1 extra
    data comes back with its zero padding, Section 4 has no write cursor.
  * The header string is stored escaped; `headerOf raw` is what the reader stores for the
    bytes `raw`, and what an application must store to get `raw` on the wire.

  What is *not* true of the C and therefore appears as a hypothesis (`_partial`) with a witness
  of its necessity (`_fails`): a header byte `\004` is dropped by the scanner (kept as a known
  finding: EOT between GTS bulletins may be deliberate).  The model describes the library with
  the C06 repairs of known_findings.json: the backslash in header strings (escaped by the reader,
  never read past), the writer's length guard (2^24 is refused), negative Section 4 lengths
  (refused).
-/
namespace Bufr.C06
open Bufr Bufr.Frame

/-- **length**: the writer accepts the message; it sends the header bytes followed by exactly
`len_msg` bytes; `len_msg` is the sum of the stored section lengths; every section's stored
length is the number of bytes written for it. -/
theorem C06_length (m : Msg) (h : FieldsInRange m) :
    let m' := m.endMessage
    writeMessage m' = .ok (m'.written, rawHeader m ++ writeBody m') ∧
    (rawHeader m ++ writeBody m').length = (rawHeader m).length + m'.lenMsg ∧
    m'.lenMsg = 8 + m'.s1.len + m'.s2Len + m'.s3Len + m'.s4Len + 4 ∧
    (wrSection0 m').length = 8 ∧ (wrSection1 m').length = m'.s1.len ∧
    (wrSection2 m').length = m'.s2Len ∧ (wrSection3 m').length = m'.s3Len ∧
    (wrSection4 m').length = m'.s4Len ∧ wrSection5.length = 4 := by
  intro m'
  have hR : Ready m' := ready_endMessage m h
  have hsm := hR.small
  have hraw' : rawHeader m' = rawHeader m := by
    simp [rawHeader, m', endMessage_header]
  refine ⟨?_, ?_, hR.len, wrSection0_length m', wrSection1_length m' hR.ed hR.s1,
    wrSection2_length m' hR, wrSection3_length m' hR, wrSection4_length m' hR, rfl⟩
  · have : ¬ (m'.lenMsg ≥ BUFR_MAX_MSG_LEN) := by unfold BUFR_MAX_MSG_LEN; omega
    simp [writeMessage, this, hraw']
  · rw [List.length_append, writeBody_length m' hR]

/-- **length, refusal**: a total length that does not fit the three octets of Section 0 is
refused by the writer (so `FieldsInRange`'s bound is exactly what the writer accepts). -/
theorem C06_maxlen_refused (m : Msg) (h : m.lenMsg ≥ 16777216) : writeMessage m = .err := by
  simp [writeMessage, BUFR_MAX_MSG_LEN, h]

/-- **even**: in editions 2 and 3 every section has even length. -/
theorem C06_even (m : Msg) (h : FieldsInRange m) (he : m.edition ≤ 3) :
    let m' := m.endMessage
    ∀ s ∈ [8, m'.s1.len, m'.s2Len, m'.s3Len, m'.s4Len, 4], s % 2 = 0 := by
  intro m'
  obtain ⟨hed, ⟨_, _, _, _, h5, _⟩, hs2, _⟩ := h
  have e2 : m'.s2Len % 2 = 0 := by
    show (if hasSect2 m.s1.flag then 4 + m.s2Data.length else 0) % 2 = 0
    split
    · have := hs2 he ‹_›; omega
    · rfl
  have e3 : m'.s3Len % 2 = 0 := by
    show m.endMessage.s3Len % 2 = 0
    rw [endMessage_s3Len m hed, if_pos he]; omega
  intro s hs
  simp only [List.mem_cons, List.mem_nil_iff, or_false] at hs
  rcases hs with rfl | rfl | rfl | rfl | rfl | rfl
  exacts [rfl, h5 he, e2, e3, (endMessage_sect4 m).1 he, rfl]

/-- **end**: the bytes written end with `7777`. -/
theorem C06_end (m : Msg) (h : FieldsInRange m) :
    let bytes := rawHeader m ++ writeBody m.endMessage
    writeMessage m.endMessage = .ok (m.endMessage.written, bytes) ∧
    bytes.drop (bytes.length - 4) = [55, 55, 55, 55] := by
  intro bytes
  refine ⟨(C06_length m h).1, ?_⟩
  show (rawHeader m ++ writeBody m.endMessage).drop ((rawHeader m ++ writeBody m.endMessage).length - 4) = wrSection5
  rw [writeBody, ← List.append_assoc, List.length_append]
  exact List.drop_left' (Nat.add_sub_cancel ..).symm

/-- the bytes `bufr_wr_header_string` sends for a stored string that is the reader's escaping
of `raw` are `raw` again — for every `raw`, backslashes and control characters included -/
theorem rawHeader_headerOf (m : Msg) (raw : List Nat) (hh : m.header = headerOf raw) :
    rawHeader m = raw := by
  unfold rawHeader
  rw [hh]
  unfold headerOf
  cases raw with
  | nil => rfl
  | cons c r =>
    simp only [List.isEmpty_cons, Bool.false_eq_true, if_false]
    exact oct2char_schar2oct _

/-- **read-back** (partial: the header string must not contain `\004`, see
`C06_readback_fails_eot`; nothing else is missing, and with `raw = []` — no header string — the
statement is full strength).  The bytes the writer sends are read back as
`normalize m.header m.endMessage`: every Section 1 field (normalised as documented), the
Section 2 payload, the Section 3 flags and descriptor list, the Section 4 data bytes and the
header string; the number of bytes consumed is the number written. -/
theorem C06_readback_partial (m : Msg) (raw : List Nat) (h : FieldsInRange m)
    (hh : m.header = headerOf raw) (hmk : NoMarker raw) (h4 : 4 ∉ raw) :
    let bytes := raw ++ writeBody m.endMessage
    writeMessage m.endMessage = .ok (m.endMessage.written, bytes) ∧
    readMessage bytes = .ok (normalize m.header m.endMessage, bytes.length) := by
  intro bytes
  have hraw := rawHeader_headerOf m raw hh
  refine ⟨by have := (C06_length m h).1; rwa [hraw] at this, ?_⟩
  have hR := ready_endMessage m h
  have := readMessage_prefix raw [] m.endMessage hR hmk
  rw [List.append_nil] at this
  rw [this, seekCollect_no_eot raw 0 h4, ← hh, List.length_append]

/-- **stream**: a concatenation of messages, each preceded by foreign bytes that do not contain
the start marker (a separator and the message's own header string), followed by trailing bytes
without the marker, is split by the documented caller loop into exactly those messages, in
order, each call consuming exactly the foreign bytes and the message.  Full strength: no
condition on `\004` or backslashes — those only affect the header string reported, which is
`headerOf (seekCollect 0 pre)`. -/
theorem C06_stream (items : List (List Nat × Msg)) (tail : List Nat) (fuel : Nat)
    (hI : ∀ it ∈ items, FieldsInRange it.2 ∧ NoMarker it.1) (ht : NoMarker tail)
    (hf : items.length < fuel) :
    readAll fuel (streamOf (items.map (fun it => (it.1, it.2.endMessage))) tail) =
      items.map (fun it => (normalize (headerOf (seekCollect 0 it.1)) it.2.endMessage,
                            it.1.length + (writeBody it.2.endMessage).length)) := by
  have := readAll_stream (items.map (fun it => (it.1, it.2.endMessage))) tail fuel
    (List.forall_mem_map.mpr fun it hit => ⟨ready_endMessage _ (hI it hit).1, (hI it hit).2⟩)
    ht (by rwa [List.length_map])
  rw [this, List.map_map]
  rfl

/-- **stream, header strings** (partial: no `\004` in the foreign bytes): the header string
reported for each message is the reader's escaping of all the foreign bytes before it. -/
theorem C06_stream_header_partial (pre : List Nat) (h4 : 4 ∉ pre) :
    headerOf (seekCollect 0 pre) = headerOf pre := by
  rw [seekCollect_no_eot pre 0 h4]

/-- **paths**: the four real read callbacks (memory, stdio, file descriptor, a user callback that
loops until it has the bytes) give what the ideal byte list gives: the same message and the
same bytes left, or the same failure. -/
theorem C06_paths (c : Cur) (hc : c.pos ≤ c.data.length) :
    Res.matches Cur.rest Cur.Inv ((readMessageP (c.rest.length + 1)).runList c.rest) (readMessageSrc memSrc c) ∧
    Res.matches Cur.rest Cur.Inv ((readMessageP (c.rest.length + 1)).runList c.rest) (readMessageSrc (cbSrc 0) c) ∧
    (c.data.length < 2147483648 →
      Res.matches Cur.rest (fun c => c.pos ≤ c.data.length ∧ c.data.length < 2147483648)
        ((readMessageP (c.rest.length + 1)).runList c.rest) (readMessageSrc fileSrc c)) ∧
    (c.data.length < 9223372036854775808 →
      Res.matches Cur.rest (fun c => c.pos ≤ c.data.length ∧ c.data.length < 9223372036854775808)
        ((readMessageP (c.rest.length + 1)).runList c.rest) (readMessageSrc fdSrc c)) :=
  ⟨readMessageSrc_sim memSrc _ _ memSrc_faithful c hc, readMessageSrc_sim (cbSrc 0) _ _ cbSrc_faithful c hc,
    fun hs => readMessageSrc_sim fileSrc _ _ fileSrc_faithful c ⟨hc, hs⟩,
    fun hs => readMessageSrc_sim fdSrc _ _ fdSrc_faithful c ⟨hc, hs⟩⟩

/-- **padding**: the zero octet `Msg.endMessage` appends to an odd edition ≤ 3 Section 4 is what
`bufr_putbits(bufr, 0, nbits)` of the bit-cursor model (C11) does: one zero octet after the
octets written so far, cursor on an octet boundary. -/
theorem C06_pad_is_putbits (w : W) (hI : WInv w) :
    let w' := w.putbits 0 (if w.bitno = 0 then 8 else 16 - w.bitno)
    w'.bytes = w.bytes ++ [0] ∧ w'.bitno = 0 ∧
    w'.filled = (if w.bitno = 0 then w.filled + 1 else w.filled + 2) := by
  have hb := hI.bitno_lt
  by_cases h0 : w.bitno = 0
  · have hc := hI.zero h0
    simp [W.putbits, W.chunk, W.putLoop, W.putLoopF, W.bytes, W.filled, W.alloc, h0, hc]
    split <;> simp
  · have hn : 16 - w.bitno ≠ 0 := by omega
    have ht : min (16 - w.bitno) (8 - w.bitno) = 8 - w.bitno := by omega
    have h8 : w.bitno + (8 - w.bitno) = 8 := by omega
    have h88 : 16 - w.bitno - (8 - w.bitno) = 8 := by omega
    simp [W.putbits, W.chunk, W.putLoop, W.putLoopF, W.bytes, W.filled, W.alloc, h0, hn, ht, h8, h88]
    split <;> simp

/-! ### witnesses: the hypotheses of `C06_readback_partial` are forced -/

/-- a small edition-4 message used by the witnesses -/
def wmsg (h : Option (List Nat)) : Msg :=
  { createMessage 4 with
    s1 := { initSect1 4 with year := 2024, month := 9, day := 29 },
    nSubsets := 1, s3Flag := 128, descs := [1001, 12101],
    s4Data := [170, 187, 204], s4Filled := 3, s4Len := 68, header := h }

/-- the header string read back for the bytes the writer sends -/
def headerReadBack (m : Msg) : Option (Option (List Nat)) :=
  match writeMessage m.endMessage with
  | .ok (_, bytes) =>
    (match readMessage bytes with
     | .ok (m', _) => some m'.header
     | _ => none)
  | _ => none

/-- **`\004` is forced**: the header `A\004B` (stored as its escaping) is sent as the three bytes
and read back as `AB`. -/
theorem C06_readback_fails_eot :
    FieldsInRange (wmsg (headerOf [65, 4, 66])) ∧
    rawHeader (wmsg (headerOf [65, 4, 66])) = [65, 4, 66] ∧
    headerReadBack (wmsg (headerOf [65, 4, 66])) = some (some [65, 66]) ∧
    (wmsg (headerOf [65, 4, 66])).header = some [65, 92, 48, 48, 52, 66] := by
  decide +kernel

/-- **Section 1 copy**: `bufr_copy_sect1` hands over every field and the additional octets of
a Section 1 that has its lengths set; only the flag octet stays the destination's. -/
theorem C06_copy_sect1 (d s : Sect1) (hl : s.len > 0) (hh : s.headerLen > 0) :
    copySect1 d s = { s with flag := d.flag } := by
  simp [copySect1, hl, hh]

/-! ### non-vacuity: the hypotheses hold on concrete, non-trivial messages -/

/-- edition 3, Section 2 present, odd number of data bits, control characters in the header -/
def ex3 : Msg :=
  (({ createMessage 3 with
      s1 := { initSect1 3 with centre := 200, subCentre := 7, year := 2024, month := 5, masterTable := 10 },
      nSubsets := 2, s3Flag := 128, descs := [1001, 301011, 5002],
      s4Data := [170, 187, 224], s4Filled := 2, s4Bitno := 3,
      header := headerOf [1, 13, 13, 10, 73, 85, 66] } : Msg).sect2SetData [1, 2, 3])

example : FieldsInRange ex3 := by decide

example : ex3.endMessage.lenMsg = 60 ∧ ex3.endMessage.s2Data = [1, 2, 3, 0] := by decide

example : NoMarker [1, 13, 13, 10, 73, 85, 66] ∧ 4 ∉ [1, 13, 13, 10, 73, 85, 66] := by decide

example : ∃ bytes, writeMessage ex3.endMessage = .ok (ex3.endMessage.written, bytes) ∧
    readMessage bytes = .ok (normalize ex3.header ex3.endMessage, 67) := by
  obtain ⟨hw, hr⟩ := C06_readback_partial ex3 [1, 13, 13, 10, 73, 85, 66] (by decide +kernel) (by decide +kernel)
    (by decide +kernel) (by decide +kernel)
  exact ⟨_, hw, by rw [hr]; decide +kernel⟩

set_option maxRecDepth 100000 in
/-- the same by evaluation, independently of the theorem -/
example : (match writeMessage ex3.endMessage with
           | .ok (_, bytes) => decide (readMessage bytes = .ok (normalize ex3.header ex3.endMessage, bytes.length))
           | _ => false) = true := by decide +kernel

/-- the normal form differs from the message written exactly where documented -/
example : (normalize ex3.header ex3.endMessage).s1.year = 24 ∧ (normalize ex3.header ex3.endMessage).s1.masterTable = 0 ∧
    (normalize ex3.header ex3.endMessage).s4Data = [170, 187, 224, 0] := by decide

set_option maxRecDepth 100000 in
/-- a stream of two messages with a separator that ends in `BUF` and contains `\004`, and trailing bytes -/
example : (readAll 5 (streamOf [([66, 85, 70], ex3.endMessage), ([9, 4, 66, 85], (wmsg none).endMessage)] [13, 10, 66, 85, 70])).map (·.2) =
    [3 + 60, 4 + 52] := by decide +kernel

example : NoMarker [66, 85, 70] ∧ NoMarker [9, 4, 66, 85] ∧ NoMarker [13, 10, 66, 85, 70] ∧ FieldsInRange (wmsg none) := by decide

/-- header strings with backslashes: `C:\101` and a trailing backslash are sent as they are and
read back as they were stored -/
example : rawHeader (wmsg (headerOf [67, 58, 92, 49, 48, 49])) = [67, 58, 92, 49, 48, 49] ∧
    headerReadBack (wmsg (headerOf [67, 58, 92, 49, 48, 49])) = some (headerOf [67, 58, 92, 49, 48, 49]) ∧
    headerOf [67, 58, 92, 49, 48, 49] = some [67, 58, 92, 92, 49, 48, 49] ∧
    headerReadBack (wmsg (headerOf [65, 92])) = some (some [65, 92, 92]) := by decide +kernel

/-- a stored string with backslashes that start no escape is sent with them -/
example : rawHeader (wmsg (some [65, 92, 66, 92])) = [65, 92, 66, 92] ∧
    rawHeader (wmsg (some [92, 49, 48, 49, 92, 110, 92, 56, 48, 48])) = [65, 10, 92, 56, 48, 48] := by decide

end Bufr.C06
