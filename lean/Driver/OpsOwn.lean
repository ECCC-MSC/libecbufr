import BufrModel.Own
/- driver ops for C16: the ownership model run against the `own.*` vocabulary of harness/ops_own.c.
   A line is `<op> <args> [=> <what the implementation answered>]`: the data-dependent shapes of newly built
   objects come from the implementation's answer (two_pass), everything structural is the model's. -/
open Bufr Bufr.Own
namespace Drv

structure OwnSt where
  s : Own.State := {}
  bad : Bool := false          -- a transition was not valid in the model: every later audit says so

def ownZeros : String := ",".intercalate (Kind.all.map fun _ => "0")

private def slotOf (t : String) : Option Nat :=
  match t.toList with
  | [c] => if '0' ≤ c ∧ c ≤ '7' then some (c.toNat - '0'.toNat) else none
  | _ => none

private def held (st : OwnSt) (k : Nat) : Bool := (st.s.slot? k).isSome

/-- `<t>` | `@name` | `L<l>:<v>` -/
private def parseTArg (t : String) : Option TArg :=
  if t.startsWith "@" then some .ext
  else match t.toList with
    | 'L' :: c :: ':' :: rest =>
      if '0' ≤ c ∧ c ≤ '7' then (String.ofList rest).toNat?.map fun v => .listed (c.toNat - '0'.toNat) v else none
    | _ => (slotOf t).map .slot

private def nat3 (x : String) : Option (List Nat) := (x.splitOn ":").mapM (·.toNat?)

private def parseShape (x : String) : Option Shape :=
  match nat3 x with
  | some [d, v, af, afd, rt, dp, ar] => some { d := d, v := v, af := af, afd := afd, rt := rt, dpbm := dp, arr := ar }
  | _ => none

private def parseTShape (x : String) : Option TShape :=
  match nat3 x with
  | some [d, v, af, afd, rt, ar, tbe] => some { d := d, v := v, af := af, afd := afd, rt := rt, arr := ar, tbe := tbe }
  | _ => none

private def fmtShape (x : Shape) : String := s!"{x.d}:{x.v}:{x.af}:{x.afd}:{x.rt}:{x.dpbm}:{x.arr}"
private def fmtTShape (x : TShape) : String := s!"{x.d}:{x.v}:{x.af}:{x.afd}:{x.rt}:{x.arr}:{x.tbe}"

/-- `c0` / `c1` -/
private def parseFlag (p : Char) (x : String) : Option Nat :=
  match x.toList with
  | c :: rest => if c = p then (String.ofList rest).toNat? else none
  | [] => none

/-- the four `state:count` fields of a printed tables state -/
private def parseFields (xs : List String) : Option (List (Nat × Nat)) :=
  xs.mapM fun x => match nat3 x with | some [a, b] => some (a, b) | _ => none

private def arrayCount (n : Node) : Nat := n.pay.entryB + n.pay.entryD

/-- state of the tables node `x` as the harness prints it -/
def fmtTables (s : Own.State) (x : Nat) : String :=
  let fs := (List.range 4).map fun f =>
    match fld s x f with
    | .own a => s!"1:{match s.find? a with | some n => arrayCount n | none => 0}"
    | .ref t => s!"2:{match s.find? t with | some n => arrayCount n | none => 0}"
    | .none =>
      match s.find? x with
      | some n => (match n.ext.find? (fun e => e.1 = f) with | some e => s!"2:{e.2}" | none => "0:0")
      | none => "0:0"
  let c := match s.find? x with | some n => n.pay.array | none => 0
  " ".intercalate fs ++ s!" c{c}"

private def tablesOfTemplate (s : Own.State) (m : Nat) : Option Nat := (s.child? m roleTables).map (·.id)
private def tablesOfDataset (s : Own.State) (d : Nat) : Option Nat :=
  match s.child? d roleTemplate with
  | some tm => tablesOfTemplate s tm.id
  | none => none

private def tshapeOf (n : Node) : TShape :=
  { d := n.pay.descriptor, v := n.pay.value, af := n.pay.af, afd := n.pay.afd, rt := n.pay.rtmd, arr := n.pay.array, tbe := n.pay.entryB }

private def rootName (s : Own.State) (r : Nat) : Option (Nat × String) :=
  match s.handles.find? (fun h => h.2 = r) with
  | some h =>
    let k := h.1
    if k < 10 then some (100 + k, s!"T{k}") else if k < 20 then some (200 + k, s!"M{k - 10}")
    else if k < 30 then some (300 + k, s!"D{k - 20}") else if k < 40 then some (400 + k, s!"G{k - 30}")
    else some (k, s!"L{k - 40}")
  | none => none

/-- the root-level reference edges `X>Y,Z` in the harness's enumeration order (L, T, M, D, G) -/
def fmtRefs (s : Own.State) : String :=
  let edges : List ((Nat × String) × (Nat × String)) := s.nodes.flatMap fun n =>
    n.refs.filterMap fun r =>
      match s.find? r.2 with
      | some t => if t.root = n.root then none else
          match rootName s n.root, rootName s t.root with
          | some a, some b => some (a, b)
          | _, _ => none
      | none => none
  let srcs := (edges.map (·.1)).eraseDups
  let srcs := srcs.mergeSort (fun a b => a.1 ≤ b.1)
  let parts := srcs.map fun a =>
    let tg := ((edges.filter (·.1 = a)).map (·.2)).eraseDups.mergeSort (fun x y => x.1 ≤ y.1)
    a.2 ++ ">" ++ ",".intercalate (tg.map (·.2))
  if parts.isEmpty then "-" else " ".intercalate parts

private def apply (st : OwnSt) (ops : List Op) : OwnSt × Bool :=
  match Own.run st.s ops with
  | some s' => ({ st with s := s' }, true)
  | none => ({ st with bad := true }, false)

/-- run the ops; `out` formats the answer from the new state; an invalid transition prints `invalid` -/
private def doOps (st : OwnSt) (ops : List Op) (out : Own.State → String) : Option (OwnSt × String) :=
  let (st', ok) := apply st ops
  some (st', if ok then out st'.s else "invalid")

private def splitObs (toks : List String) : List String × List String :=
  let a := toks.takeWhile (· ≠ "=>")
  (a, (toks.drop (a.length + 1)))

private def extObs (src : TArg) (flds : List (Nat × Nat)) : List (Nat × Nat) :=
  match src with
  | .ext => (List.range 2).filterMap fun f => match flds[f]? with
      | some (2, n) => some (f, n)
      | _ => none
  | _ => []

private def subsetCount (s : Own.State) (d : Nat) : Nat :=
  match s.slot? (slotD d) with | some r => (subsetsOf s r).length | none => 0

/-- groups of `v<ver> f0 f1 f2 f3 c<k>` -/
private def tableGroups : List String → Option (List (Nat × List (Nat × Nat)))
  | [] => some []
  | v :: f0 :: f1 :: f2 :: f3 :: _c :: more =>
    match parseFlag 'v' v, parseFields [f0, f1, f2, f3], tableGroups more with
    | some ver, some fl, some r => some ((ver, fl) :: r)
    | _, _, _ => none
  | _ => none

def stepOwn (st : OwnSt) (toks : List String) : Option (OwnSt × String) :=
  let (cmd, obs) := splitObs toks
  let bad : Option (OwnSt × String) := some (st, "bad-op")
  -- the library called the application's abort handler (or exit): the process is poisoned until `reset`
  if (cmd.head?.getD "").startsWith "own." && (obs = ["abort"] || obs = ["exit"]) then some (st, obs.head?.getD "abort") else
  match cmd with
  | ["own.base"] => some (st, "ok")
  | ["own.counts"] => some (st, ",".intercalate (st.s.counts.map toString))
  | ["own.audit"] => some (st, if wfb st.s && !st.bad then "ok" else "model-invalid")
  | ["own.refs"] => some (st, fmtRefs st.s)
  | ["own.lsan"] => some (st, "0")
  | ["own.freeall"] =>
    match freeAll st.s with
    | some s' => some ({ st with s := s' }, "ok")
    | none => some ({ st with bad := true }, "invalid")
  | ["own.tnew", t] =>
    match slotOf t with
    | some t => if held st (slotT t) then bad else doOps st [.tnew t] fun _ => "ok"
    | none => bad
  | ["own.tload", t, w, _path] =>
    match slotOf t, (match w with | "mb" => some 0 | "md" => some 1 | "lb" => some 2 | "ld" => some 3 | "cb" => some 0 | "cd" => some 1 | _ => none) with
    | some t, some f =>
      if !held st (slotT t) then bad else
      match obs with
      | rc :: f0 :: f1 :: f2 :: f3 :: _c :: [] =>
        match parseFields [f0, f1, f2, f3] with
        | some fl =>
          let (stt, n) := fl.getD f (0, 0)
          doOps st [.tload (.slot t) f (stt ≠ 0) n] fun s =>
            rc ++ " " ++ (match s.slot? (slotT t) with | some x => fmtTables s x | none => "?")
        | none => bad
      | _ => bad
    | _, _ => bad
  | ["own.tmerge", t, src] =>
    match slotOf t, parseTArg src with
    | some t, some sa =>
      if !held st (slotT t) || (resolveT st.s sa).isNone || sa = .slot t then bad else
      match obs with
      | "ok" :: f0 :: f1 :: f2 :: f3 :: _c :: [] =>
        match parseFields [f0, f1, f2, f3] with
        | some fl =>
          doOps st [.tmerge t sa (fl.getD 2 (0, 0)).2 (fl.getD 3 (0, 0)).2 (extObs sa fl)] fun s =>
            "ok " ++ (match s.slot? (slotT t) with | some x => fmtTables s x | none => "?")
        | none => bad
      | _ => bad
    | _, _ => bad
  | ["own.tstate", t] =>
    match slotOf t with
    | some t => (match st.s.slot? (slotT t) with | some x => some (st, fmtTables st.s x) | none => bad)
    | none => bad
  | ["own.tfree", t] =>
    match slotOf t with
    | some t => if !held st (slotT t) then bad else doOps st [.tfree t] fun _ => "ok"
    | none => bad
  | "own.lnew" :: l :: _dir :: _vs =>
    match slotOf l with
    | some l =>
      if held st (slotL l) then bad else
      match obs with
      | "ok" :: _n :: rest =>
        match (tableGroups rest).map (fun gs => gs.map fun (ver, fl) => (ver, (fl.getD 0 (0, 0)).2, (fl.getD 1 (0, 0)).2)) with
        | some tabs =>
          doOps st [.lnew l tabs] fun s =>
            match s.slot? (slotL l) with
            | some r =>
              let ts := listed s r
              s!"ok {ts.length}" ++ String.join (ts.map fun n => s!" v{versionOf n} " ++ fmtTables s n.id)
            | none => "?"
        | none => bad
      | ["null"] => some (st, "null")
      | _ => bad
    | none => bad
  | ["own.llocal", l, lb, ld] =>
    match slotOf l with
    | some l =>
      if !held st (slotL l) then bad else
      match obs with
      | "ok" :: _n :: rest =>
        match tableGroups rest with
        | some gs =>
          let ops : List Op := gs.flatMap fun (ver, fl) =>
            (if lb ≠ "-" then [Op.tload (.listed l ver) 2 ((fl.getD 2 (0, 0)).1 ≠ 0) (fl.getD 2 (0, 0)).2] else []) ++
            (if ld ≠ "-" then [Op.tload (.listed l ver) 3 ((fl.getD 3 (0, 0)).1 ≠ 0) (fl.getD 3 (0, 0)).2] else [])
          doOps st ops fun s =>
            match s.slot? (slotL l) with
            | some r =>
              let ts := listed s r
              s!"ok {ts.length}" ++ String.join (ts.map fun n => s!" v{versionOf n} " ++ fmtTables s n.id)
            | none => "?"
        | none => bad
      | _ => bad
    | none => bad
  | ["own.lfree", l] =>
    match slotOf l with
    | some l => if !held st (slotL l) then bad else doOps st [.lfree l] fun _ => "ok"
    | none => bad
  | "own.mnew" :: m :: src :: _ed :: _descs =>
    match slotOf m, parseTArg src with
    | some m, some sa =>
      if held st (slotM m) || (resolveT st.s sa).isNone then bad else
      match obs with
      | ["fail", c] =>
        (match parseFlag 'c' c with
         | some c => doOps st [.tcache sa (c ≠ 0)] fun _ => s!"fail c{c}"
         | none => bad)
      | ["ok", sh, f0, f1, f2, f3, cm, c] =>
        match parseTShape sh, parseFields [f0, f1, f2, f3], parseFlag 'c' cm, parseFlag 'c' c with
        | some sh, some fl, some cm, some c =>
          doOps st [.tcache sa (c ≠ 0), .mnew m sa sh (fl.getD 2 (0, 0)).2 (fl.getD 3 (0, 0)).2 (cm ≠ 0) (extObs sa fl)] fun s =>
            match s.slot? (slotM m) with
            | some r => (match s.find? r, tablesOfTemplate s r with
              | some n, some tb => s!"ok {fmtTShape (tshapeOf n)} {fmtTables s tb} c{c}"
              | _, _ => "?")
            | none => "?"
        | _, _, _, _ => bad
      | _ => bad
    | _, _ => bad
  | "own.madd" :: m :: _descs =>
    -- `bufr_template_add_DescValue` on a finalized template, then `bufr_finalize_template` again
    match slotOf m with
    | some m =>
      if !held st (slotM m) then bad else
      match obs with
      | [r, sh, c] =>
        (match parseTShape sh, parseFlag 'c' c with
         | some sh', some c' =>
           if r = "ok" ∨ r = "fail" then
             doOps st [.mset m sh', .mcache m (c' ≠ 0)] fun s =>
               match s.slot? (slotM m) with
               | some root => (match s.find? root with
                 | some n => s!"{r} {fmtTShape (tshapeOf n)} {c}"
                 | none => "?")
               | none => "?"
           else bad
         | _, _ => bad)
      | _ => bad
    | none => bad
  | ["own.mload", m, src, _path] =>
    match slotOf m, (if src = "-" then some none else (parseTArg src).map some) with
    | some m, some sa =>
      if held st (slotM m) || (match sa with | some a => (resolveT st.s a).isNone | none => false) then bad else
      let tc (c : Option String) : List Op := match sa, c with
        | some a, some c => (match parseFlag 'c' c with | some c => [.tcache a (c ≠ 0)] | none => [])
        | _, _ => []
      match obs with
      | "fail" :: rest =>
        doOps st (tc rest.head?) fun _ => " ".intercalate ("fail" :: rest)
      | "ok" :: sh :: f0 :: f1 :: f2 :: f3 :: cm :: rest =>
        match parseTShape sh, parseFields [f0, f1, f2, f3], parseFlag 'c' cm with
        | some sh, some fl, some cm =>
          doOps st (tc rest.head? ++ [.mload m sa sh fl (cm ≠ 0) (match sa with | some a => extObs a fl | none => [])]) fun s =>
            match s.slot? (slotM m) with
            | some r => (match s.find? r, tablesOfTemplate s r with
              | some n, some tb => " ".intercalate ([s!"ok {fmtTShape (tshapeOf n)} {fmtTables s tb}"] ++ rest)
              | _, _ => "?")
            | none => "?"
        | _, _, _ => bad
      | _ => bad
    | _, _ => bad
  | ["own.mcopy", m2, m1] =>
    match slotOf m2, slotOf m1 with
    | some m2, some m1 =>
      if held st (slotM m2) || !held st (slotM m1) then bad else
      match obs with
      | ["fail", c] =>
        (match parseFlag 'c' c with
         | some c => doOps st [.mcache m1 (c ≠ 0)] fun _ => s!"fail c{c}"
         | none => bad)
      | ["ok", _sh, f0, f1, f2, f3, cm, c] =>
        match parseFields [f0, f1, f2, f3], parseFlag 'c' cm, parseFlag 'c' c with
        | some fl, some cm, some c =>
          doOps st [.mcache m1 (c ≠ 0), .mcopy m2 m1 (fl.getD 2 (0, 0)).2 (fl.getD 3 (0, 0)).2 (cm ≠ 0)] fun s =>
            match s.slot? (slotM m2) with
            | some r => (match s.find? r, tablesOfTemplate s r with
              | some n, some tb => s!"ok {fmtTShape (tshapeOf n)} {fmtTables s tb} c{c}"
              | _, _ => "?")
            | none => "?"
        | _, _, _ => bad
      | _ => bad
    | _, _ => bad
  | ["own.mfree", m] =>
    match slotOf m with
    | some m => if !held st (slotM m) then bad else doOps st [.mfree m] fun _ => "ok"
    | none => bad
  | ["own.dnew", d, m] =>
    match slotOf d, slotOf m with
    | some d, some m =>
      if held st (slotD d) || !held st (slotM m) then bad else
      match obs with
      | ["fail", c] =>
        (match parseFlag 'c' c with
         | some c => doOps st [.mcache m (c ≠ 0)] fun _ => s!"fail c{c}"
         | none => bad)
      | ["ok", _sh, f0, f1, f2, f3, cm, c] =>
        match parseFields [f0, f1, f2, f3], parseFlag 'c' cm, parseFlag 'c' c with
        | some fl, some cm, some c =>
          doOps st [.mcache m (c ≠ 0), .dnew d m (fl.getD 2 (0, 0)).2 (fl.getD 3 (0, 0)).2 (cm ≠ 0)] fun s =>
            match s.slot? (slotD d) with
            | some r => (match s.child? r roleTemplate, tablesOfDataset s r with
              | some n, some tb => s!"ok {fmtTShape (tshapeOf n)} {fmtTables s tb} c{c}"
              | _, _ => "?")
            | none => "?"
        | _, _, _ => bad
      | _ => bad
    | _, _ => bad
  | ["own.dsub", d] =>
    match slotOf d with
    | some d =>
      if !held st (slotD d) then bad else
      match obs with
      | [pos, sh, e, c] =>
        match parseShape sh, parseFlag 'e' e, parseFlag 'c' c with
        | some sh, some e, some c =>
          let k := subsetCount st.s d
          doOps st [.dsub d sh, .dtmpl d e (c ≠ 0)] fun _ => s!"{k} {fmtShape sh} e{e} c{c}"
        | _, _, _ => some (st, " ".intercalate [pos, sh, e, c])
      | [pos, e, c] =>
        (match parseFlag 'e' e, parseFlag 'c' c with
         | some e', some c' => doOps st [.dtmpl d e' (c' ≠ 0)] fun _ => s!"{pos} {e} {c}"
         | _, _ => bad)
      | _ => bad
    | none => bad
  | "own.dfactors" :: d :: _k :: _v :: _ =>
    match slotOf d with
    | some d => if !held st (slotD d) then bad else some (st, " ".intercalate obs)
    | none => bad
  | ["own.dexpand", d, k] =>
    match slotOf d, k.toNat? with
    | some d, some k =>
      if !held st (slotD d) then bad else
      match obs with
      | [n, sh, e, c] =>
        match parseShape sh, parseFlag 'e' e, parseFlag 'c' c with
        | some sh, some e', some c' => doOps st [.dset d k sh, .dtmpl d e' (c' ≠ 0)] fun _ => s!"{n} {fmtShape sh} {e} {c}"
        | _, _, _ => bad
      | [n, e, c] =>
        (match parseFlag 'e' e, parseFlag 'c' c with
         | some e', some c' =>
           -- no such subset: the model must agree that there is none
           if k < subsetCount st.s d then some (st, "invalid") else doOps st [.dtmpl d e' (c' ≠ 0)] fun _ => s!"{n} {e} {c}"
         | _, _ => bad)
      | _ => bad
    | _, _ => bad
  | ["own.dfill", d, k, _seed, _mode] =>
    match slotOf d, k.toNat? with
    | some d, some k =>
      if !held st (slotD d) then bad else
      match obs with
      | ["none"] => if k < subsetCount st.s d then some (st, "invalid") else some (st, "none")
      | [n, sh] =>
        (match parseShape sh with
         | some sh => doOps st [.dset d k sh] fun _ => s!"{n} {fmtShape sh}"
         | none => bad)
      | _ => bad
    | _, _ => some (st, " ".intercalate obs)
  | ["own.dmerge", dd, dpos, ds, spos, nb] =>
    match slotOf dd, slotOf ds with
    | some dd, some ds =>
      if !held st (slotD dd) || !held st (slotD ds) then bad else
      match obs with
      | rc :: _after :: rest =>
        let e := rest.getD (rest.length - 2) ""
        let c := rest.getD (rest.length - 1) ""
        let blanks := (rest.take (rest.length - 2)).filterMap parseShape
        match rc.toInt?, parseFlag 'e' e, parseFlag 'c' c with
        | some rcv, some e', some c' =>
          let tail := String.join (blanks.map fun b => " " ++ fmtShape b) ++ s!" {e} {c}"
          if rcv < 0 then
            doOps st [.dtmpl dd e' (c' ≠ 0)] fun s => s!"{rc} {subsetCount s dd}" ++ tail
          else
            match dpos.toNat?, spos.toNat?, nb.toNat? with
            | some dp, some sp, some nbv =>
              -- blank subsets are made to reach the destination position, unless the template refuses to make one
              -- (then none is made): which of the two happened is read off the subset count the implementation reports
              let before := subsetCount st.s dd
              let attempted := if dp ≥ before then dp - before + 1 else 0
              let nb' := min nbv (subsetCount st.s ds)
              let okAfter := max (before + attempted) (if nb' = 0 then 0 else dp + nb')
              let made := if _after.toNat? = some okAfter then attempted else 0
              doOps st [.dmerge dd dp ds sp nbv made blanks, .dtmpl dd e' (c' ≠ 0)] fun s => s!"{rc} {subsetCount s dd}" ++ tail
            | _, _, _ => some (st, "invalid")
        | _, _, _ => bad
      | _ => bad
    | _, _ => bad
  | ["own.dfree", d] =>
    match slotOf d with
    | some d => if !held st (slotD d) then bad else doOps st [.dfree d] fun _ => "ok"
    | none => bad
  | ["own.dhdr", d, _h] =>
    match slotOf d with
    | some d => if !held st (slotD d) then bad else some (st, " ".intercalate obs |> fun o => if o = "" then "ok" else o)
    | none => bad
  | ["own.enc", g, d, _comp] =>
    match slotOf g, slotOf d with
    | some g, some d =>
      if held st (slotG g) || !held st (slotD d) then bad else
      match obs with
      | ["null"] => some (st, "null")
      | ["ok", a, b, c1, _c2, mdl, e, c] =>
        -- the allocation is predicted, not echoed: `bufr_alloc_sect4` gives `max_data_len + 10` octets, the slack
        -- `SafeWrites` (BufrProofs/Bits.lean) assumes when it shows that every write lands inside it
        (match parseFlag 'e' e, parseFlag 'c' c, mdl.toNat? with
         | some e', some c', some m => doOps st [.gnew g, .dtmpl d e' (c' ≠ 0)] fun _ => " ".intercalate ["ok", a, b, c1, toString (m + 10), mdl, e, c]
         | _, _, _ => bad)
      | _ => bad
    | _, _ => bad
  | ["own.gwrite", b, g] =>
    match slotOf b, slotOf g with
    | some _, some g => if !held st (slotG g) then bad else some (st, " ".intercalate obs)
    | _, _ => bad
  | "own.bset" :: _ => some (st, " ".intercalate obs)
  | "own.bcut" :: _ => some (st, " ".intercalate obs)
  | "own.bflip" :: _ => some (st, if obs.isEmpty then "ok" else " ".intercalate obs)
  | "own.bget" :: _ => some (st, " ".intercalate obs)
  | ["own.gread", g, b] =>
    match slotOf g, slotOf b with
    | some g, some _ =>
      if held st (slotG g) then bad else
      match obs with
      | "ok" :: _ => doOps st [.gnew g] fun _ => " ".intercalate obs
      | _ => some (st, " ".intercalate obs)     -- `fail`, or `bad-op` when the buffer slot is empty
    | _, _ => bad
  | ["own.gfree", g] =>
    match slotOf g with
    | some g => if !held st (slotG g) then bad else doOps st [.gfree g] fun _ => "ok"
    | none => bad
  | "own.dec" :: d :: g :: src :: range =>
    match slotOf d, slotOf g, parseTArg src with
    | some d, some g, some sa =>
      if held st (slotD d) || !held st (slotG g) || (resolveT st.s sa).isNone || !(range.length = 0 || range.length = 2) then bad else
      match obs with
      | ["null", c] =>
        (match parseFlag 'c' c with
         | some c' => doOps st [.tcache sa (c' ≠ 0)] fun _ => s!"null {c}"
         | none => bad)
      | "ok" :: inv :: n :: sh :: f0 :: f1 :: f2 :: f3 :: cm :: rest =>
        let c := rest.getD (rest.length - 1) ""
        let shs := (rest.take (rest.length - 1)).filterMap parseShape
        match parseTShape sh, parseFields [f0, f1, f2, f3], parseFlag 'c' cm, parseFlag 'c' c with
        | some tsh, some fl, some cmv, some cv =>
          doOps st [.tcache sa (cv ≠ 0), .dec d sa tsh (fl.getD 2 (0, 0)).2 (fl.getD 3 (0, 0)).2 (cmv ≠ 0) shs (extObs sa fl)] fun s =>
            match s.slot? (slotD d) with
            | some r => (match s.child? r roleTemplate, tablesOfDataset s r with
              | some tn, some tb =>
                s!"ok {inv} {(subsetsOf s r).length} {fmtTShape (tshapeOf tn)} {fmtTables s tb}" ++
                  String.join ((subsetsOf s r).map fun x => " " ++ fmtShape { d := x.pay.descriptor, v := x.pay.value, af := x.pay.af, afd := x.pay.afd, rt := x.pay.rtmd, dpbm := x.pay.dpbm, arr := x.pay.array }) ++ s!" {c}"
              | _, _ => "?")
            | none => "?"
        | _, _, _, _ => if n = "" then bad else bad
      | _ => bad
    | _, _, _ => bad
  | "own.dseq" :: d :: src :: _ed :: _descs =>
    -- `bufr_create_dataset_from_sequence`: a dataset, its template and one subset made from tables, like a decode
    match slotOf d, parseTArg src with
    | some d, some sa =>
      if held st (slotD d) || (resolveT st.s sa).isNone then bad else
      match obs with
      | ["null", c] =>
        (match parseFlag 'c' c with
         | some c' => doOps st [.tcache sa (c' ≠ 0)] fun _ => s!"null {c}"
         | none => bad)
      | "ok" :: inv :: _n :: sh :: f0 :: f1 :: f2 :: f3 :: cm :: rest =>
        let c := rest.getD (rest.length - 1) ""
        let shs := (rest.take (rest.length - 1)).filterMap parseShape
        match parseTShape sh, parseFields [f0, f1, f2, f3], parseFlag 'c' cm, parseFlag 'c' c with
        | some tsh, some fl, some cmv, some cv =>
          doOps st [.tcache sa (cv ≠ 0), .dec d sa tsh (fl.getD 2 (0, 0)).2 (fl.getD 3 (0, 0)).2 (cmv ≠ 0) shs (extObs sa fl)] fun s =>
            match s.slot? (slotD d) with
            | some r => (match s.child? r roleTemplate, tablesOfDataset s r with
              | some tn, some tb =>
                s!"ok {inv} {(subsetsOf s r).length} {fmtTShape (tshapeOf tn)} {fmtTables s tb}" ++
                  String.join ((subsetsOf s r).map fun x => " " ++ fmtShape { d := x.pay.descriptor, v := x.pay.value, af := x.pay.af, afd := x.pay.afd, rt := x.pay.rtmd, dpbm := x.pay.dpbm, arr := x.pay.array }) ++ s!" {c}"
              | _, _ => "?")
            | none => "?"
        | _, _, _, _ => bad
      | _ => bad
    | _, _ => bad
  | ["own.store", b, d] =>
    match slotOf b, slotOf d with
    | some _, some d => if !held st (slotD d) then bad else some (st, " ".intercalate obs)
    | _, _ => bad
  | ["own.extract", t, d] =>
    match slotOf t, slotOf d with
    | some t, some d =>
      if held st (slotT t) || !held st (slotD d) then bad else
      match obs with
      | ["null"] => some (st, "null")
      | ["ok", f0, f1, f2, f3, _c] =>
        (match parseFields [f0, f1, f2, f3] with
         | some fl => doOps st [.extract t (fl.getD 2 (0, 0)).2 (fl.getD 3 (0, 0)).2] fun s =>
             "ok " ++ (match s.slot? (slotT t) with | some x => fmtTables s x | none => "?")
         | none => bad)
      | _ => bad
    | _, _ => bad
  | ["own.dumpload", d, d2] =>
    match slotOf d, slotOf d2 with
    | some d, some d2 =>
      if !held st (slotD d) || !held st (slotD d2) then bad else
      match obs with
      | rc :: _n :: rest =>
        let e := rest.getD (rest.length - 2) ""
        let c := rest.getD (rest.length - 1) ""
        let shs := (rest.take (rest.length - 2)).filterMap parseShape
        (match parseFlag 'e' e, parseFlag 'c' c with
         | some e', some c' =>
           doOps st [.dreload d2 shs, .dtmpl d2 e' (c' ≠ 0)] fun s =>
             s!"{rc} {subsetCount s d2}" ++ String.join (shs.map fun b => " " ++ fmtShape b) ++ s!" {e} {c}"
         | _, _ => bad)
      | _ => bad
    | _, _ => bad
  | _ => none

end Drv
