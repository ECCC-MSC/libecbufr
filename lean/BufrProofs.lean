import BufrProofs.Bits
import BufrProofs.Expand
import BufrProofs.NodeFrame
import BufrProofs.ExpandTotal
import BufrProofs.Ops
import BufrProofs.Ieee
import BufrProofs.Tables
import BufrProofs.Frame
import BufrProofs.SoftFloat
import BufrProofs.Scale
import BufrProofs.ScaleSingle
import BufrProofs.Find
import BufrProofs.FindQuals
import BufrProofs.FindLeaf
import BufrProofs.FindKeys
import BufrProofs.LocalTables
import BufrProofs.Printf
import BufrProofs.Dump
import BufrProofs.DumpLoad
import BufrProofs.DumpNode
import BufrProofs.TemplateDigits
import BufrProofs.TemplateReal
import BufrProofs.TemplateText
import BufrProofs.Sprintf
import BufrProofs.CodecDynamic
import BufrProofs.Own
import BufrProofs.WriterFields
import BufrProofs.Bitmap
import BufrProofs.BitmapCompressed
